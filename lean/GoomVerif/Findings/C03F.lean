import GoomVerif.Props.C03
/-!
# Findings for C03 (not obligations)

F2 and F3 state the two defects of the unrepaired relocation (`Cfg.legacy`) next to the repaired behaviour (`Cfg.fixed`).  The rest
runs `Cfg.fixed`: F4 (a branch back to the entry is not refused), F27 (a function copied whole), F28 (an instruction with
`Opcode == 0` is skipped), F5 (the far form of the jump back lands), and why the function size handed to the relocation matters.

Concrete witnesses, checked by kernel evaluation of the model on the regenerated `Gen.Addr` definitions.
-/
namespace C03F
open Reloc C03L

def b (l : List Nat) : Reloc.Bytes := l.map (BitVec.ofNat 8)

/-- `CMPB $0, 0x5c619c(RIP)` — 80 3d 9c 61 5c 00 00 : RIP-relative operand followed by an imm8 -/
def cmpb : Ins := { len := 7, pcrelOff := 2, pcrel := 4, bytes := b [0x80, 0x3d, 0x9c, 0x61, 0x5c, 0x00, 0x00],
                    isRet := false, isCall := false, backward := false, opZero := false }

/-- **F2**: the legacy `fixIns` returns `ops+addr` only — the image of a 7-byte `CMPB $imm8, x(RIP)` has 6 bytes, the
    immediate is gone (the next instruction's first byte is then read as the immediate). -/
theorem F2_tail_dropped :
    ∃ o, fixIns Cfg.legacy cmpb 0 13 0x402f80#64 0x4022c8#64 0 = .ok o ∧ o.length = 6 ∧ cmpb.len = 7 := by
  refine ⟨_, rfl, by decide, rfl⟩

/-- the repaired code keeps it -/
theorem F2_repaired :
    ∃ o, fixIns Cfg.fixed cmpb 0 13 0x402f80#64 0x4022c8#64 0 = .ok o ∧ o.length = 7 ∧ o.drop 6 = cmpb.tail := by
  refine ⟨_, rfl, by decide, by decide⟩

/-- stock prologue `CMPQ SP,16(R14); JBE +0x11; PUSHQ BP; MOVQ SP,BP; CALL +0x7777; POPQ BP; RET; <morestack stub>` -/
def s2 : List Ins := [
  { len := 4, pcrelOff := 0, pcrel := 0, bytes := b [0x49, 0x3b, 0x66, 0x10], isRet := false, isCall := false, backward := false, opZero := false },
  { len := 2, pcrelOff := 1, pcrel := 1, bytes := b [0x76, 0x0b], isRet := false, isCall := false, backward := false, opZero := false },
  { len := 1, pcrelOff := 0, pcrel := 0, bytes := b [0x55], isRet := false, isCall := false, backward := false, opZero := false },
  { len := 3, pcrelOff := 0, pcrel := 0, bytes := b [0x48, 0x89, 0xe5], isRet := false, isCall := false, backward := false, opZero := false },
  { len := 5, pcrelOff := 1, pcrel := 4, bytes := b [0xe8, 0x77, 0x77, 0x00, 0x00], isRet := false, isCall := true, backward := false, opZero := false },
  { len := 1, pcrelOff := 0, pcrel := 0, bytes := b [0x5d], isRet := false, isCall := false, backward := false, opZero := false },
  { len := 1, pcrelOff := 0, pcrel := 0, bytes := b [0xc3], isRet := true, isCall := false, backward := false, opZero := false },
  { len := 5, pcrelOff := 1, pcrel := 4, bytes := b [0xe8, 0x00, 0xb0, 0xff, 0xff], isRet := false, isCall := true, backward := true, opZero := false },
  { len := 2, pcrelOff := 1, pcrel := 1, bytes := b [0xeb, 0xe8], isRet := false, isCall := false, backward := true, opZero := false }]

/-- the CALL's rel32 field in the copy (bytes 15..18 of the output: 4 + 6 (widened JBE) + 1 + 3 + 1 opcode byte) -/
def callField (out : Reloc.Bytes) : Reloc.Bytes := (out.drop 15).take 4

/-- **F3**: origin 0x500000, placeholder 0x600000 (1 MiB away, so `JBE rel8` is widened by 4 bytes).  The CALL sits at
    original offset 10, its copy at offset 14; its target is 0x500000+15+0x7777.  Legacy code encodes the field as if the copy
    were at offset 10: it lands 4 bytes high.  Repaired code lands on the target. -/
theorem F3_call_shifted :
    (∃ out n, fixRelativeAddr Cfg.legacy 0x500000#64 0x600000#64 24 13 .eof s2 = .ok (out, n) ∧
        (0x600000 : Int) + 14 + 5 + sdisp (callField out) = 0x500000 + 10 + 5 + 0x7777 + 4) ∧
    (∃ out n, fixRelativeAddr Cfg.fixed 0x500000#64 0x600000#64 24 13 .eof s2 = .ok (out, n) ∧
        (0x600000 : Int) + 14 + 5 + sdisp (callField out) = 0x500000 + 10 + 5 + 0x7777) := by
  refine ⟨⟨_, _, rfl, by decide⟩, ⟨_, _, rfl, by decide⟩⟩

/-- **F4** (known finding, no small repair): the last instruction of `s2`, `JMP entry` of the stack-growth epilogue, lies
    outside the copied prefix and targets offset 0 — the patched entry.  `checkJumpBetween` accepts it (it only refuses
    targets strictly inside `(0, n)`), so a relocated prologue whose stack check fails re-enters the mock. -/
theorem F4_reentry_not_refused :
    ∃ out n, fixRelativeAddr Cfg.fixed 0x500000#64 0x600000#64 24 13 .eof s2 = .ok (out, n) ∧ n = 15 ∧
      (∃ i ∈ s2, i.pcrelOff ≠ 0 ∧ (22 : Int) + i.len + sdisp i.field = 0) := by
  refine ⟨_, _, rfl, by decide, ⟨s2.getLast (by decide), by decide, by decide, by decide⟩⟩

/-- the full no-re-entry statement `C03.NoReentry` is false for this (stock) function although the relocation succeeds -/
theorem F4_NoReentry_false : ¬ C03.NoReentry 15 24 s2 := by
  intro h
  exact h 22 (s2.getLast (by decide)) (by decide) (by decide) (by decide) (by decide) (by decide)

/-- `MOVQ 0x1000(RIP),AX; MOVQ 0x2000(RIP),BX; RET` — 15 bytes, every cut position ≥ 13 is followed by RET: copied whole -/
def whole : List Ins := [
  { len := 7, pcrelOff := 3, pcrel := 4, bytes := b [0x48, 0x8b, 0x05, 0x00, 0x10, 0x00, 0x00], isRet := false, isCall := false, backward := false, opZero := false },
  { len := 7, pcrelOff := 3, pcrel := 4, bytes := b [0x48, 0x8b, 0x1d, 0x00, 0x20, 0x00, 0x00], isRet := false, isCall := false, backward := false, opZero := false },
  { len := 1, pcrelOff := 0, pcrel := 0, bytes := b [0xc3], isRet := true, isCall := false, backward := false, opZero := false }]

/-- **F27**: the whole function is consumed (n = 15 = its size); the relocation computes `fixed` (displacements moved by
    −0x400), which differs from the raw bytes `progBytes whole`, and `fixOrigin` writes `fixed`, not the raw bytes.  Despite its
    name the statement says `data = fixed ∧ fixed ≠ progBytes whole`: writing the raw bytes would be wrong for this function. -/
theorem F27_whole_copy_is_raw :
    ∃ fixed data, fixRelativeAddr Cfg.fixed 0x500000#64 0x500400#64 15 ((13 : Nat) : Int) .eof whole = .ok (fixed, 15) ∧
      fixOrigin Cfg.fixed 0x500000#64 0x500400#64 200 13 whole = .ok data ∧ data = fixed ∧ fixed ≠ progBytes whole := by
  refine ⟨_, _, rfl, rfl, rfl, by decide⟩

/-- `ADDB AL,(AX)` (00 00), then `PUSHQ BP; MOVQ SP,BP; SUBQ $0x18,SP; 8×NOP; RET` -/
def withZero : List Ins :=
  { len := 2, pcrelOff := 0, pcrel := 0, bytes := b [0, 0], isRet := false, isCall := false, backward := false, opZero := true } ::
  { len := 1, pcrelOff := 0, pcrel := 0, bytes := b [0x55], isRet := false, isCall := false, backward := false, opZero := false } ::
  { len := 3, pcrelOff := 0, pcrel := 0, bytes := b [0x48, 0x89, 0xe5], isRet := false, isCall := false, backward := false, opZero := false } ::
  { len := 4, pcrelOff := 0, pcrel := 0, bytes := b [0x48, 0x83, 0xec, 0x18], isRet := false, isCall := false, backward := false, opZero := false } ::
  ((List.replicate 8 { len := 1, pcrelOff := 0, pcrel := 0, bytes := b [0x90], isRet := false, isCall := false, backward := false, opZero := false }) ++
  [{ len := 1, pcrelOff := 0, pcrel := 0, bytes := b [0xc3], isRet := true, isCall := false, backward := false, opZero := false },
   { len := 1, pcrelOff := 0, pcrel := 0, bytes := b [0xcc], isRet := false, isCall := false, backward := false, opZero := false }])

/-- **F28** (known finding): an instruction whose Opcode field is 0 is skipped — 13 bytes of the origin are consumed but only
    11 arrive in the copy; the contract `C03L.WF.opnz` excludes exactly this. -/
theorem F28_opzero_dropped :
    ∃ out, fixRelativeAddr Cfg.fixed 0x500000#64 0x600000#64 20 13 .eof withZero = .ok (out, 13) ∧ out.length = 11 := by
  refine ⟨_, rfl, by decide⟩

/-- **F5**: more than 2 GiB apart the jump back is `JMP [RIP+0] ; .quad origin+n` — 14 bytes, no register touched — and it
    LANDS on origin+n (a far form `MOV RDX,imm64; JMP [RDX]` would jump through the code bytes stored there). -/
theorem F5_far_form_lands :
    Gen.Amd64.jmpToOriginFunctionValue 0x7f0000001000#64 0x40100f#64 =
      b [0xFF, 0x25, 0, 0, 0, 0, 0x0f, 0x10, 0x40, 0, 0, 0, 0, 0] ∧
    ∀ m : X86.Mach, X86.exec (Gen.Amd64.jmpToOriginFunctionValue 0x7f0000001000#64 0x40100f#64) { m with rip := 0x7f0000001000#64 } =
      some { m with rip := 0x40100f#64 } :=
  ⟨by decide, fun m => C15.return_exact _ _ m⟩

/-- `MOVL $1,DX; loop: 8×NOP; JMP loop` — one loop whose head (offset 5) lies inside the bytes the entry jump overwrites -/
def loopFn : List Ins :=
  { len := 5, pcrelOff := 0, pcrel := 0, bytes := b [0xba, 1, 0, 0, 0], isRet := false, isCall := false, backward := false, opZero := false } ::
  ((List.replicate 8 { len := 1, pcrelOff := 0, pcrel := 0, bytes := b [0x90], isRet := false, isCall := false, backward := false, opZero := false }) ++
  [{ len := 2, pcrelOff := 1, pcrel := 1, bytes := b [0xeb, 0xf6], isRet := false, isCall := false, backward := true, opZero := false },
   { len := 1, pcrelOff := 0, pcrel := 0, bytes := b [0xcc], isRet := false, isCall := false, backward := false, opZero := false }])

/-- **why the function size matters**: handed the real size (16) the relocation of
    `loopFn` is refused — the closing `JMP loop` at offset 13 targets offset 5 — but handed a size that stops short of that branch
    (12) the very same function is accepted with n = 13, although the loop then branches into the middle of the entry jump.
    `C03.reloc_whole_function_checked` therefore carries `progLen prog ≤ fs` as a hypothesis. -/
theorem truncated_size_misses_back_branch :
    fixRelativeAddr Cfg.fixed 0x500000#64 0x600000#64 16 13 .eof loopFn = .error "err:jump-between" ∧
    (∃ out, fixRelativeAddr Cfg.fixed 0x500000#64 0x600000#64 12 13 .eof loopFn = .ok (out, 13)) ∧
    (∃ i ∈ loopFn, i.pcrelOff ≠ 0 ∧ (13 : Int) + i.len + sdisp i.field = 5) := by
  refine ⟨rfl, ⟨_, rfl⟩, ⟨loopFn[9], by decide, by decide, by decide⟩⟩

end C03F
