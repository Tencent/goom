import GoomVerif.Lemmas.C02B
import GoomVerif.Props.C15
/-! # C02 — Reset/Cancel restore behaviour and the exact bytes; only entry jumps differ

All statements are about `Patch.step`/`Patch.run` (Model/Patch.lean), for every measured environment `env` whose functions
span at least 16 bytes (`EnvOk`: entry alignment), every number of builders/targets/callbacks/placeholders and every
finite list of public-API operations. -/
namespace C02
open Patch C02L

/-- the entry jump written by `Guard.Apply` is 13 bytes for every destination (emitter regenerated from the Go source) -/
theorem jump_length (to : BitVec 64) : (jumpTo to).length = 13 := C02L.jump_length to

/-- **Invariant, step.** Every public-API call preserves the invariant. -/
theorem inv_step {env : Env} (he : EnvOk env) {s : St} (hi : Inv env s) (op : Op) : Inv env (step env s op).1 :=
  (step_spec he hi op).inv

/-- **Invariant, all histories.** It holds after every finite history from the pristine state. -/
theorem reachable_inv {env : Env} (he : EnvOk env) (ops : List Op) : ∀ {s : St}, Inv env s → Inv env (run env s ops) := by
  induction ops with
  | nil => intro s hi; exact hi
  | cons op ops ih => intro s hi; exact ih (inv_step he hi op)

theorem reachable_inv_init {env : Env} (he : EnvOk env) (ops : List Op) : Inv env (run env (init env) ops) :=
  reachable_inv he ops (inv_init env)

/-- **Saved bytes are pristine.** After any history, every guard's `originBytes` are the pristine first 13 bytes of its target
    (never a snapshot of an already patched entry). -/
theorem saved_bytes_pristine {env : Env} (he : EnvOk env) (ops : List Op) (g : Nat)
    (hg : g < (run env (init env) ops).nGuards) :
    ((run env (init env) ops).guards g).originBytes = (env.pristine ((run env (init env) ops).guards g).origin).take 13 :=
  ((reachable_inv_init he ops).saved g hg).1

/-- **Only entry jumps differ.** After any history the bytes of every function are pristine, or pristine with exactly the
    first 13 bytes replaced by the jump of a guard that is registered for this function and applied; in both cases
    nothing past byte 13 differs and the extent is unchanged. -/
theorem only_entry_jumps {env : Env} (he : EnvOk env) (ops : List Op) (f : Nat) :
    let s := run env (init env) ops
    (s.text f = env.pristine f ∨
      ∃ p g, s.patches f = some p ∧ p.guard = some g ∧ (s.guards g).applied = true ∧ (s.guards g).jumpBytes.length = 13 ∧
        s.text f = overwrite (env.pristine f) (s.guards g).jumpBytes) ∧
    (s.text f).drop 13 = (env.pristine f).drop 13 ∧ (s.text f).length = (env.pristine f).length := by
  intro s
  have hi : Inv env s := reachable_inv_init he ops
  rcases hi.txt f with h | ⟨p, g, h1, h2, h3, h4⟩
  · exact ⟨Or.inl h, by rw [h], by rw [h]⟩
  · have hl := ((hi.saved g (hi.reg f p g h1 h2).1)).2
    refine ⟨Or.inr ⟨p, g, h1, h2, h3, hl, h4⟩, ?_, ?_⟩
    · rw [h4]; exact overwrite_drop _ _ hl
    · rw [h4]; exact overwrite_length _ _ (by have := he f; omega)

/-- **Reset restores.** In any reachable state, `Reset` of builder `b` — cancelling its cached mockers in ANY order `ks` that
    covers the cache — leaves every function that one of the builder's mockers had patched byte-for-byte pristine, hence with
    the original behaviour class. -/
theorem reset_restores {env : Env} (he : EnvOk env) (ops : List Op) (b : Nat) (ks : List Nat) (nCb : Nat)
    (key id g : Nat) (hk : key ∈ ks)
    (hc : (run env (init env) ops).cache b key = some id)
    (hg : ((run env (init env) ops).mockers id).guard = some g)
    (ha : ((run env (init env) ops).guards g).applied = true) :
    let s' := cancelKeys (run env (init env) ops) b ks
    s'.text (key % 1000) = env.pristine (key % 1000) ∧ behaviour env s' nCb (key % 1000) = .orig := by
  intro s'
  have hi := reachable_inv_init he ops
  obtain ⟨_, _, _, _, _, _, _, restores, _⟩ := cancelKeys_spec he b ks hi
  have h := restores key hk id g hc hg ha
  exact ⟨h, behaviour_pristine h⟩

/-- **Reset — the whole step, both cache levels — restores.**  After any history, `Reset b` leaves byte-for-byte pristine (class
    `orig`) every function patched by a mocker that is in the builder's own cache or in the child cache of the builder's struct
    mocker (`Struct(x).Method` / `ExportMethod` / `ExportStruct(..).Method`).  This is the provable part of the clause "after a
    builder's Reset every function it mocked is restored": see `ResetRestoresAll` below for the full statement, which is false
    for a mocker the builder has replaced in its cache (Findings/C02Orphan.lean). -/
theorem reset_step_restores {env : Env} (he : EnvOk env) (ops : List Op) (b key id g o nCb : Nat)
    (hc : (run env (init env) ops).cache b key = some id ∨
          ((run env (init env) ops).scache b = some o ∧ (run env (init env) ops).cache o key = some id))
    (hg : ((run env (init env) ops).mockers id).guard = some g)
    (ha : ((run env (init env) ops).guards g).applied = true) :
    let s' := (step env (run env (init env) ops) (.reset b)).1
    s'.text (key % 1000) = env.pristine (key % 1000) ∧ behaviour env s' nCb (key % 1000) = .orig := by
  intro s'
  have hi := reachable_inv_init he ops
  obtain ⟨o', ow, c⟩ : ∃ o', (o' = b ∨ (run env (init env) ops).scache b = some o') ∧ (run env (init env) ops).cache o' key = some id := by
    rcases hc with h | ⟨h, h2⟩
    · exact ⟨b, Or.inl rfl, h⟩
    · exact ⟨o, Or.inr h, h2⟩
  have htext : s'.text (key % 1000) = env.pristine (key % 1000) := by
    have := ((resetB_cancels he hi b).done id ⟨o', key, ow, c⟩).2 g hg ha
    rw [(hi.ck o' key id c).1] at this
    exact this
  exact ⟨htext, behaviour_pristine htext⟩

def opBuilder : Op → Nat
  | .apply b _ _ _ | .ret b _ _ | .cancel b _ | .reset b | .keep b _ | .applyH b _ _ | .retH b _ | .cancelH b _ | .keepS b
  | .sapply b _ _ _ _ | .sret b _ _ _ | .scancel b _ _ | .skeep b _ _ | .other b | .applyBad b _ => b

/-- **The Reset clause at full strength** (one builder): after any history that uses only builder `b`, `Reset b` leaves every
    function byte-for-byte pristine.  NOT a theorem: it is false for goom as it is (a kept handle that was cancelled, replaced in
    the builder's cache by a fresh lookup and then applied again is unknown to `Reset`) — `Findings.not_resetRestoresAll`.
    The proved part is `reset_step_restores` (= `reset_restores_partial`): everything still in the builder's caches. -/
def ResetRestoresAll (env : Env) : Prop :=
  ∀ (ops : List Op) (b : Nat), (∀ op, op ∈ ops → opBuilder op = b) →
    ∀ f, (step env (run env (init env) ops) (.reset b)).1.text f = env.pristine f

theorem reset_restores_partial {env : Env} (he : EnvOk env) (ops : List Op) (b key id g o : Nat)
    (hcached : (run env (init env) ops).cache b key = some id ∨
          ((run env (init env) ops).scache b = some o ∧ (run env (init env) ops).cache o key = some id))
    (hg : ((run env (init env) ops).mockers id).guard = some g)
    (ha : ((run env (init env) ops).guards g).applied = true) :
    (step env (run env (init env) ops) (.reset b)).1.text (key % 1000) = env.pristine (key % 1000) :=
  (reset_step_restores he ops b key id g o 0 hcached hg ha).1

/-- **A mocker's Cancel restores** (`b.Func(f).Cancel()`, `Struct(x).Method(m).Cancel()` … with `o` the cache owner): if the
    owner's live (not cancelled) entry for the key holds an applied guard, the target is byte-for-byte pristine afterwards. -/
theorem cancel_restores {env : Env} (he : EnvOk env) {s : St} (hi : Inv env s) (o key id g nCb : Nat)
    (hc : s.cache o key = some id) (hn : (s.mockers id).canceled = false)
    (hg : (s.mockers id).guard = some g) (ha : (s.guards g).applied = true) :
    (doCancel s o key).text (key % 1000) = env.pristine (key % 1000) ∧ behaviour env (doCancel s o key) nCb (key % 1000) = .orig := by
  have hget : getMocker s o key = (s, id) := by unfold getMocker; simp [hc, hn]
  have ht := (hi.ck o key id hc).1
  have h : (doCancel s o key).text (key % 1000) = env.pristine (key % 1000) := by
    unfold doCancel
    rw [hget]
    have := ((cancelMocker_cancels he hi id).done id rfl).2 g hg ha
    rw [ht] at this; exact this
  exact ⟨h, behaviour_pristine h⟩

/-- the same through a kept handle: `m.Cancel()` -/
theorem cancelH_restores {env : Env} (he : EnvOk env) {s : St} (hi : Inv env s) (b key id g : Nat)
    (hh : s.handle b key = some id) (hg : (s.mockers id).guard = some g) (ha : (s.guards g).applied = true) :
    (step env s (.cancelH b key)).1.text (s.mockers id).target = env.pristine (s.mockers id).target := by
  simp only [step, hh]
  exact ((cancelMocker_cancels he hi id).done id rfl).2 g hg ha

/-- the list `Reset` actually ranges over covers the builder's cache -/
theorem reset_covers_cache {env : Env} (he : EnvOk env) (ops : List Op) (b key id : Nat)
    (hc : (run env (init env) ops).cache b key = some id) : key ∈ (run env (init env) ops).keys b :=
  ((reachable_inv_init he ops).ck b key id hc).2.1

/-- **Second Reset is idempotent** on the image: it changes no byte (both levels: the builder's own entries and the
    children of its struct mocker). -/
theorem reset_idempotent {env : Env} (he : EnvOk env) (ops : List Op) (b : Nat) (f : Nat) :
    let s1 := (step env (run env (init env) ops) (.reset b)).1
    (step env s1 (.reset b)).1.text f = s1.text f := by
  intro s1
  have hi := reachable_inv_init he ops
  -- a byte the second Reset writes belongs to a function that a cancelled mocker holds an applied guard on: the first made it pristine
  have h1 := resetB_cancels he hi b
  rcases (resetB_cancels he (h1.inv hi) b).text f with e | ⟨e, id, g, ⟨o, key, ow, c⟩, t, gd, ap⟩
  · exact e
  · rw [show (resetB (run env (init env) ops) b).scache = _ from (congrArg St.scache h1.shape :)] at ow
    rw [show (resetB (run env (init env) ops) b).cache = _ from (congrArg St.cache h1.shape :)] at c
    rw [show (resetB (run env (init env) ops) b).guards = _ from (congrArg St.guards h1.shape :)] at ap
    have := (h1.done id ⟨o, key, ow, c⟩).2 g ((h1.mock id).2.1.symm.trans gd) ap
    rw [← (h1.mock id).1, t] at this
    exact e.trans this.symm

/-- **Operations on one target never change another.** `Apply`/`Return`/`When`/`Origin`/`Cancel` issued for a key whose
    target is `key % 1000` — through a builder lookup, through a struct mocker (kept or freshly looked up) — leave the bytes
    of every other function untouched (in any state satisfying the invariant, so in particular after any history);
    `Reset b` touches only targets of keys in `b`'s cache list and in the list of its struct mocker; operations through a
    kept handle touch only the target of the mocker the handle refers to; bare lookups touch nothing. -/
theorem other_targets_untouched {env : Env} (he : EnvOk env) {s : St} (hi : Inv env s) (op : Op) (f : Nat) :
    (match op with
      | .apply _ key _ _ => key % 1000 ≠ f
      | .ret _ key _ => key % 1000 ≠ f
      | .cancel _ key => key % 1000 ≠ f
      | .reset b => (∀ k, k ∈ s.keys b → k % 1000 ≠ f) ∧ (∀ o, s.scache b = some o → ∀ k, k ∈ s.keys o → k % 1000 ≠ f)
      | .keep _ _ => True
      | .applyH b key _ => ∀ id, s.handle b key = some id → (s.mockers id).target ≠ f
      | .retH b key => ∀ id, s.handle b key = some id → (s.mockers id).target ≠ f
      | .cancelH b key => ∀ id, s.handle b key = some id → (s.mockers id).target ≠ f
      | .keepS _ => True
      | .sapply _ key _ _ _ => key % 1000 ≠ f
      | .sret _ key _ _ => key % 1000 ≠ f
      | .scancel _ key _ => key % 1000 ≠ f
      | .skeep _ _ _ => True
      | .other _ => True
      | .applyBad _ _ => True) →
    (step env s op).1.text f = s.text f := by
  cases op with
  | apply b key k origin => intro hne; exact (doApply_spec he hi b key k origin).2 f hne
  | ret b key origin => intro hne; exact (doRet_spec he hi b key origin).2 f hne
  | cancel b key => intro hne; exact (doCancel_spec he hi b key).2 f hne
  | reset b =>
    intro hne
    rcases (resetB_cancels he hi b).text f with e | ⟨_, id, _, ⟨o, k, ow, c⟩, t, _⟩
    · exact e
    · have hk := hi.ck o k id c
      rcases ow with rfl | ow
      · exact absurd (hk.1.symm.trans t) (hne.1 k hk.2.1)
      · exact absurd (hk.1.symm.trans t) (hne.2 o ow k hk.2.1)
  | keep b key => intro _; exact congrFun (doKeep_spec hi b b key).2 f
  | applyH b key k =>
    intro hne
    simp only [step]
    cases hh : s.handle b key with
    | none => rfl
    | some id =>
      exact (congrFun (applyCb_text env s id k).1 f).trans ((applyImp_spec he hi id (.cb k)).text f fun h => hne id hh h.symm)
  | retH b key =>
    intro hne
    simp only [step]
    cases hh : s.handle b key with
    | none => rfl
    | some id =>
      dsimp only
      split
      · rfl
      · exact (applyImp_spec he (whens_inv hi id) id (.stub s.nStubs)).text f fun h =>
          hne id hh ((h.trans whens_target).symm)
  | cancelH b key =>
    intro hne
    simp only [step]
    cases hh : s.handle b key with
    | none => rfl
    | some id =>
      rcases (cancelMocker_cancels he hi id).text f with e | ⟨_, _, _, rfl, t, _⟩
      · exact e
      · exact absurd t (hne _ hh)
  | keepS b => intro _; exact congrFun (congrArg St.text (getStruct_shape s b) :) f
  | sapply b key k origin kept =>
    intro hne
    simp only [step]
    cases h : structOf s b kept with
    | none => rfl
    | some r =>
      obtain ⟨ir, tr, _⟩ := structOf_spec hi b kept r h
      exact ((doApply_spec he ir.inv r.2 key k origin).2 f hne).trans (congrFun tr f)
  | sret b key origin kept =>
    intro hne
    simp only [step]
    cases h : structOf s b kept with
    | none => rfl
    | some r =>
      obtain ⟨ir, tr, _⟩ := structOf_spec hi b kept r h
      exact ((doRet_spec he ir.inv r.2 key origin).2 f hne).trans (congrFun tr f)
  | scancel b key kept =>
    intro hne
    simp only [step]
    cases h : structOf s b kept with
    | none => rfl
    | some r =>
      obtain ⟨ir, tr, _⟩ := structOf_spec hi b kept r h
      exact ((doCancel_spec he ir.inv r.2 key).2 f hne).trans (congrFun tr f)
  | skeep b key kept =>
    intro _
    simp only [step]
    cases h : structOf s b kept with
    | none => rfl
    | some r =>
      obtain ⟨ir, tr, _⟩ := structOf_spec hi b kept r h
      exact (congrFun (doKeep_spec ir.inv r.2 b key).2 f).trans (congrFun tr f)
  | other b => intro _; rfl
  | applyBad b key => intro _; exact congrFun (congrArg St.text (getMocker_spec hi b key).2.1 :) f

/-- **Looking the struct mocker up again returns the same one.**  `b.Struct(x)` hands out the cached `*CachedMethodMocker`
    as long as its `Canceled()` is false — also before its first `.Method()` call, when it has no children yet — so mocks
    made through a kept `sm := b.Struct(x)` and through later `b.Struct(x)` lookups live in the same child cache, which is the
    one `Reset` walks (`resetB`, `reset_restores` with the struct mocker as cache owner). -/
theorem struct_lookup_stable (s : St) (b o : Nat) (hc : s.scache b = some o) (hn : s.scanceled o = false) :
    getStruct s b = (s, o) := by
  unfold getStruct
  simp [hc, hn]

/-- "function `t` is mocked with implementation `imp`" in state `post`: its bytes are the pristine bytes with exactly one entry jump,
    which differs from the pristine entry and leads to `imp` — to the implementation's own funcval, or, for a generic
    target, to an installed dictionary-dropping adapter that forwards to it -/
def MockedWith (env : Env) (post : St) (t : Nat) (imp : Imp) : Prop :=
  ∃ a, post.text t = overwrite (env.pristine t) (jumpTo a) ∧ jumpTo a ≠ (env.pristine t).take 13 ∧ Denotes env post a imp ∧
    (env.generic t = false → a = impAddr env imp)

/-- re-mock through any cache owner whose entry for the key is cancelled (or absent): `Apply` succeeds -/
theorem remock_core {env : Env} (he : EnvOk env) {s1 : St} (i1 : Inv env s1) (o key k : Nat)
    (hcan : ∀ id, s1.cache o key = some id → (s1.mockers id).canceled = true)
    (hsz : 13 < env.funcSize (key % 1000))
    (hnop : Gen.Amd64.checkAlreadyPatch ((env.pristine (key % 1000)).take 13) = false) :
    (doApply env s1 o key k none).2 = none ∧ MockedWith env (doApply env s1 o key k none).1 (key % 1000) (.cb k) := by
  -- the mocker handed out is fresh: no sticky Origin
  have hfresh : ((getMocker s1 o key).1.mockers (getMocker s1 o key).2).origin = none := by
    rcases getMocker_cases s1 o key with e | ⟨id, c, hn, _⟩
    · rw [e]; exact congrArg Mocker.origin upd_same
    · exact absurd (hcan id c) (by rw [hn]; exact Bool.noConfusion)
  obtain ⟨g1, _, _, _, _, g3⟩ := getMocker_spec i1 o key
  have hok : (applyImp env (getMocker s1 o key).1 (getMocker s1 o key).2 (.cb k)).2 = none := by
    rcases replaceFunc_exits env (getMocker s1 o key).1 ((getMocker s1 o key).1.mockers (getMocker s1 o key).2).target
      (dest env (getMocker s1 o key).1 (getMocker s1 o key).2 (.cb k)) ((getMocker s1 o key).1.mockers (getMocker s1 o key).2).origin
      with ⟨_, _, _, _, c⟩ | ⟨_, _, _, e⟩
    · rw [g3, (unpatchValue_spec he g1 (key % 1000)).2.1, hnop, hfresh] at c
      rcases c with ⟨c, _⟩ | ⟨_, c | c⟩
      · exact absurd hsz (Nat.not_lt_of_le c)
      · exact Bool.noConfusion c
      · exact absurd rfl c
    · rw [applyImp_ok e]
  have hok' : (doApply env s1 o key k none).2 = none := (applyCb_text env _ _ k).2.1.trans hok
  exact ⟨hok', doApply_ok he i1 o key k none hok'⟩

/-- **Re-mock after Reset works.** After any history followed by `Reset b`, `b.…Apply(cb k)` on a key of `b` (no `Origin`)
    succeeds whenever goom's own preconditions hold for the target (longer than the jump, first byte not the NOP sentinel),
    and leaves exactly one entry jump over the pristine bytes that leads to the callback (`MockedWith`). -/
theorem remock_after_reset {env : Env} (he : EnvOk env) (ops : List Op) (b key k : Nat)
    (hsz : 13 < env.funcSize (key % 1000))
    (hnop : Gen.Amd64.checkAlreadyPatch ((env.pristine (key % 1000)).take 13) = false) :
    let s1 := (step env (run env (init env) ops) (.reset b)).1
    (step env s1 (.apply b key k none)).2 = none ∧ MockedWith env (step env s1 (.apply b key k none)).1 (key % 1000) (.cb k) := by
  intro s1
  have hi := reachable_inv_init he ops
  have h := resetB_cancels he hi b
  refine remock_core he (h.inv hi) b key k (fun id hc => ?_) hsz hnop
  rw [show (resetB (run env (init env) ops) b).cache = _ from (congrArg St.cache h.shape :)] at hc
  exact (h.done id ⟨b, key, Or.inl rfl, hc⟩).1

/-- **A refused (re-)mock installs nothing.**  When `Apply` panics — the origin placeholder is refused inside `replaceFunc`, after
    the previous patch has been taken off — the target has its pristine bytes: neither the new jump nor the jump of an earlier,
    already reset mock is (re-)installed. -/
theorem refused_apply_leaves_pristine {env : Env} (he : EnvOk env) {s : St} (hi : Inv env s) (o key k : Nat) (origin : Option Nat) (e : Err)
    (h : (doApply env s o key k origin).2 = some e) :
    (doApply env s o key k origin).1.text (key % 1000) = env.pristine (key % 1000) := by
  obtain ⟨l1, _, l3, _⟩ := lookup_spec hi o key origin
  obtain ⟨c1, c2, _⟩ := applyCb_text env (setOrigin (getMocker s o key).1 (getMocker s o key).2 origin) (getMocker s o key).2 k
  have := (applyImp_spec he l1.inv (getMocker s o key).2 (.cb k)).err (by rw [← c2]; exact fun hn => nomatch h.symm.trans hn)
  rw [l3] at this
  exact (congrFun c1 _).trans this

/-- **A function shorter than the entry jump is refused every time it is offered**, whatever the patch table holds (a refused
    origin is registered too); afterwards it has its pristine bytes (a jump it carried is taken off by the `unpatchValue` in front of the
    size test) and no other function's bytes have changed. -/
theorem too_short_always_refused {env : Env} (he : EnvOk env) {s : St} (hi : Inv env s) (f : Nat) (to : BitVec 64) (tramp : Option Nat)
    (hshort : env.funcSize f ≤ 13) :
    (replaceFunc env s f to tramp).2 = .error .tooSmall ∧ (replaceFunc env s f to tramp).1.text f = env.pristine f ∧
    ∀ x, x ≠ f → (replaceFunc env s f to tramp).1.text x = s.text x := by
  obtain ⟨_, t0, tf0, _⟩ := unpatchValue_spec he hi f
  rcases replaceFunc_exits env s f to tramp with ⟨_, _, _, e, ⟨_, rfl⟩ | ⟨c, _⟩⟩ | ⟨c, _⟩
  · rw [e]
    exact ⟨rfl, t0, tf0⟩
  · exact absurd c (Nat.not_lt_of_le hshort)
  · exact absurd c (Nat.not_lt_of_le hshort)

/-- **`Unpatch` of a function that carries no patch changes nothing** (monkey.go:150 `unpatchValue`): in particular not the code of
    the functions it calls. -/
theorem unpatch_unpatched_noop (s : St) (f : Nat) (h : s.patches f = none) : unpatchValue s f = s := by
  unfold unpatchValue; simp [h]

/-- no operation changes what `Canceled()` answers for a struct mocker: it stays false.  (No function of `Model/Patch.lean` writes the
    field `scanceled`; the theorem records that, and with it that hypothesis `hn` of `struct_lookup_stable` is always met.) -/
theorem scanceled_never {env : Env} (ops : List Op) (o : Nat) : (run env (init env) ops).scanceled o = false := by
  have key : ∀ (ops : List Op) (s : St), (run env s ops).scanceled = s.scanceled := by
    intro ops
    induction ops with
    | nil => intro s; rfl
    | cons op ops ih => intro s; show (run env (step env s op).1 ops).scanceled = _; rw [ih, step_scanceled]
  rw [key]; rfl

/-- **Re-mock after Reset works for method keys too** (via `Struct(x).Method(m)` / `.ExportMethod(m)`): after any history
    followed by `Reset b`, `Apply(cb k)` on a method key — through a fresh `b.Struct(x)` lookup (`kept = false`) or through
    the kept struct mocker (`kept = true`), provided that one is the builder's struct mocker `o` — succeeds under goom's own
    preconditions and leaves exactly the jump to the callback. -/
theorem remock_after_reset_struct {env : Env} (he : EnvOk env) (ops : List Op) (b key k o : Nat) (kept : Bool)
    (hsc : (run env (init env) ops).scache b = some o)
    (hkept : kept = true → (run env (init env) ops).shandle b = some o)
    (hsz : 13 < env.funcSize (key % 1000))
    (hnop : Gen.Amd64.checkAlreadyPatch ((env.pristine (key % 1000)).take 13) = false) :
    let s1 := (step env (run env (init env) ops) (.reset b)).1
    (step env s1 (.sapply b key k none kept)).2 = none ∧
    MockedWith env (step env s1 (.sapply b key k none kept)).1 (key % 1000) (.cb k) := by
  intro s1
  have hi := reachable_inv_init he ops
  have h := resetB_cancels he hi b
  have hscan : s1.scanceled o = false :=
    (congrFun (congrArg St.scanceled h.shape :) o).trans (scanceled_never ops o)
  have hst : structOf s1 b kept = some (s1, o) := by
    unfold structOf
    cases kept with
    | true => simp [show s1.shandle = _ from (congrArg St.shandle h.shape :), hkept rfl]
    | false => simp [struct_lookup_stable s1 b o ((congrFun (congrArg St.scache h.shape :) b).trans hsc) hscan]
  have hstep : step env s1 (.sapply b key k none kept) = doApply env s1 o key k none := by
    simp [step, hst]
  rw [hstep]
  refine remock_core he (h.inv hi) o key k (fun id hc => ?_) hsz hnop
  rw [show (resetB (run env (init env) ops) b).cache = _ from (congrArg St.cache h.shape :)] at hc
  exact (h.done id ⟨o, key, Or.inr hsc, hc⟩).1

/-- **A kept handle that is re-applied is live again for the builder.**  If the handle kept for (b, key) is the builder's
    cache entry and `Apply` through it succeeds (e.g. after the handle's own `Cancel`), the next builder lookup of the same
    key returns that same mocker and creates nothing — so `Cancel` after a fresh lookup and `Reset` (`reset_restores`) reach the live
    mock.  (This is what `m.canceled = false` in `applyBy*` is for.) -/
theorem relookup_after_handle_apply {env : Env} (he : EnvOk env) {s : St} (hi : Inv env s) (b key k id : Nat)
    (hh : s.handle b key = some id) (hc : s.cache b key = some id)
    (hok : (step env s (.applyH b key k)).2 = none) :
    getMocker (step env s (.applyH b key k)).1 b key = ((step env s (.applyH b key k)).1, id) := by
  have hst : step env s (.applyH b key k) = applyCb env s id k := by simp [step, hh]
  rw [hst] at hok ⊢
  obtain ⟨_, c2, c3, _, _, c6⟩ := applyCb_text env s id k
  have A := applyImp_spec he hi id (.cb k)
  have hcache : (applyCb env s id k).1.cache b key = some id := by
    rw [c3, show (applyImp env s id (.cb k)).1.cache = s.cache from (congrArg St.cache A.shape :)]; exact hc
  obtain ⟨_, _, _, _, live, _⟩ := A.ok (c2.symm.trans hok)
  have hlive : ((applyCb env s id k).1.mockers id).canceled = false := c6.trans live
  unfold getMocker
  simp [hcache, hlive]


/-- **The entry jump dispatches to the funcval it names** (C15's `amd64_entry` for the regenerated emitter): executing the 13
    bytes `jumpTo a` at any entry address loads `RDX := a` and continues at the code pointer stored in the funcval, `[a]`. -/
theorem entry_dispatch (e a : BitVec 64) (m : X86.Mach) :
    X86.exec (jumpTo a) { m with rip := e } = some { m with rip := m.mem64 a, rdx := a } :=
  C15.amd64_entry e a m

def classOf : Imp → Beh
  | .cb k => .cb k
  | .stub n => .stub n

/-- **The behaviour class is determined by the entry bytes** (any state, distinct funcvals at distinct addresses):
    pristine entry ⇒ `orig`; the jump to callback `k`'s funcval ⇒ `cb k`; the jump to the `n`-th MakeFunc stub ⇒ `stub n`;
    the jump to an installed adapter (generic targets) ⇒ the class of what the adapter forwards to. -/
theorem behaviour_of_text {env : Env} {nCb nS nA : Nat} (ha : AddrOk env nCb nS nA) (s : St) (f : Nat)
    (hS : s.nStubs ≤ nS) (hA : s.nAdapt ≤ nA) :
    ((s.text f).take 13 = (env.pristine f).take 13 → behaviour env s nCb f = .orig) ∧
    (∀ k, k < nCb → (s.text f).take 13 = jumpTo (env.cbAddr k) → jumpTo (env.cbAddr k) ≠ (env.pristine f).take 13 →
      behaviour env s nCb f = .cb k) ∧
    (∀ n, n < s.nStubs → (s.text f).take 13 = jumpTo (env.stubAddr n) → jumpTo (env.stubAddr n) ≠ (env.pristine f).take 13 →
      behaviour env s nCb f = .stub n) ∧
    (∀ n imp, n < s.nAdapt → s.adapt n = some imp → (s.text f).take 13 = jumpTo (env.adaptAddr n) →
      jumpTo (env.adaptAddr n) ≠ (env.pristine f).take 13 → behaviour env s nCb f = classOf imp) := by
  refine ⟨fun h => by simp only [behaviour, h, ↓reduceIte], ?_, ?_, ?_⟩
  · intro k hk h hne
    unfold behaviour
    dsimp only
    rw [if_neg (by rw [h]; exact hne), (find?_jump h env.cbAddr nCb).1 k hk rfl fun x hx e => ha.cb_inj x k hx hk e]
  · intro n hn h hne
    unfold behaviour
    dsimp only
    rw [if_neg (by rw [h]; exact hne), (find?_jump h env.cbAddr nCb).2 fun x _ e => ha.disjoint x n (by omega) e]
    dsimp only
    rw [(find?_jump h env.stubAddr s.nStubs).1 n hn rfl fun x hx e => ha.stub_inj x n (by omega) (by omega) e]
  · intro n imp hn hi h hne
    unfold behaviour
    dsimp only
    rw [if_neg (by rw [h]; exact hne), (find?_jump h env.cbAddr nCb).2 fun x _ e => ha.adapt_cb x n (by omega) e]
    dsimp only
    rw [(find?_jump h env.stubAddr s.nStubs).2 fun x hx e => ha.adapt_stub x n (by omega) (by omega) e]
    dsimp only
    unfold adaptClass
    rw [(find?_jump h env.adaptAddr s.nAdapt).1 n hn rfl fun x hx e => ha.adapt_inj x n (by omega) (by omega) e]
    dsimp only
    rw [hi]
    cases imp <;> rfl

theorem hb_cb {nCb N k : Nat} (h : k < nCb) :
    (∀ k', Imp.cb k = Imp.cb k' → k' < nCb) ∧ (∀ n, Imp.cb k = Imp.stub n → n < N) := by
  constructor
  · intro k' e; cases e; exact h
  · intro n e; cases e

theorem hb_stub {nCb N n : Nat} (h : n < N) :
    (∀ k', Imp.stub n = Imp.cb k' → k' < nCb) ∧ (∀ n', Imp.stub n = Imp.stub n' → n' < N) := by
  constructor
  · intro k' e; cases e
  · intro n' e; cases e; exact h

/-- the class of a function whose entry is a jump to something that runs `imp` -/
theorem behaviour_of_denotes {env : Env} {nCb nS nA : Nat} (ha : AddrOk env nCb nS nA) (s : St) (f : Nat)
    (hS : s.nStubs ≤ nS) (hA : s.nAdapt ≤ nA) (a : BitVec 64) (imp : Imp)
    (h5 : (s.text f).take 13 = jumpTo a) (h6 : jumpTo a ≠ (env.pristine f).take 13) (hd : Denotes env s a imp)
    (hb : (∀ k, imp = .cb k → k < nCb) ∧ (∀ n, imp = .stub n → n < s.nStubs)) :
    behaviour env s nCb f = classOf imp := by
  rcases hd with e | ⟨n, hn, e, hi⟩
  · subst e
    cases imp with
    | cb k => exact (behaviour_of_text ha s f hS hA).2.1 k (hb.1 k rfl) h5 h6
    | stub n => exact (behaviour_of_text ha s f hS hA).2.2.1 n (hb.2 n rfl) h5 h6
  · subst e
    exact (behaviour_of_text ha s f hS hA).2.2.2 n imp hn hi h5 h6

/-- **Ownership, all histories.** -/
theorem reachable_own {env : Env} (he : EnvOk env) (ops : List Op) : ∀ {s : St}, Inv env s → Own env s → Own env (run env s ops) := by
  induction ops with
  | nil => intro s _ ho; exact ho
  | cons op ops ih => intro s hi ho; exact ih (inv_step he hi op) ((step_spec he hi op).own ho)

/-- what the entry bytes of `f` are in a state satisfying both invariants -/
theorem entry_cases {env : Env} (he : EnvOk env) {s : St} (hi : Inv env s) (ho : Own env s) (f : Nat) :
    s.text f = env.pristine f ∨
    ∃ id imp a, id < s.nMockers ∧ (s.mockers id).target = f ∧ (s.mockers id).imp = some imp ∧ (s.mockers id).canceled = false ∧
      s.text f = overwrite (env.pristine f) (jumpTo a) ∧ Denotes env s a imp ∧
      (s.text f).take 13 = jumpTo a ∧ jumpTo a ≠ (env.pristine f).take 13 ∧
      (∀ n, imp = .stub n → (s.mockers id).hasWhen = true ∧ n < s.nStubs) := by
  rcases hi.txt f with h | ⟨p, g, h1, h2, h3, h4⟩
  · exact Or.inl h
  · by_cases hp : s.text f = env.pristine f
    · exact Or.inl hp
    · right
      obtain ⟨id, imp, hlt, hg, him, ⟨a, hj, hd⟩, hc, hs⟩ := ho.own f p g h1 h2 h3 hp
      have hr := hi.reg f p g h1 h2
      have htg : (s.mockers id).target = f := by rw [← (hi.mg id g hg).2]; exact hr.2
      rw [hj] at h4
      refine ⟨id, imp, a, hlt, htg, him, hc, h4, hd, ?_, ?_, hs⟩
      · rw [h4]; exact overwrite_takeJ _ _ (C02L.jump_length a)
      · intro e
        apply hp
        rw [h4, e]
        exact overwrite_take _ _ (by have := he f; omega)

/-- **Behaviour classes over all reachable states.**  After any history, every function either has its pristine bytes and
    class `orig`, or its entry is exactly one jump that leads — directly, or for a generic target through an installed
    dictionary-dropping adapter — to the current implementation of an allocated, not cancelled mocker `μ` of that function:
    class `cb k` if `μ.imp` is callback `k`, class `stub n` if it is the `n`-th MakeFunc stub, and then `μ` still owns the
    `When` that stub serves (`hasWhen`). -/
theorem behaviour_reachable {env : Env} {nCb nS nA : Nat} (he : EnvOk env) (ha : AddrOk env nCb nS nA) (ops : List Op) (f : Nat)
    (hS : (run env (init env) ops).nStubs ≤ nS) (hA : (run env (init env) ops).nAdapt ≤ nA) :
    let s := run env (init env) ops
    (s.text f = env.pristine f ∧ behaviour env s nCb f = .orig) ∨
    ∃ μ imp a, μ < s.nMockers ∧ (s.mockers μ).target = f ∧ (s.mockers μ).imp = some imp ∧ (s.mockers μ).canceled = false ∧
      s.text f = overwrite (env.pristine f) (jumpTo a) ∧ Denotes env s a imp ∧ s.text f ≠ env.pristine f ∧
      (∀ k, imp = .cb k → k < nCb → behaviour env s nCb f = .cb k) ∧
      (∀ n, imp = .stub n → (s.mockers μ).hasWhen = true ∧ behaviour env s nCb f = .stub n) := by
  intro s
  have hi : Inv env s := reachable_inv_init he ops
  have ho : Own env s := reachable_own he ops (inv_init env) (own_init env)
  rcases entry_cases he hi ho f with h | ⟨id, imp, a, hlt, htg, him, hc, h4, hd, h5, h6, hs⟩
  · exact Or.inl ⟨h, (behaviour_of_text ha s f hS hA).1 (by rw [h])⟩
  · right
    refine ⟨id, imp, a, hlt, htg, him, hc, h4, hd, ?_, ?_, ?_⟩
    · intro e; apply h6; rw [← h5, e]
    · intro k hk hlt'; subst hk
      exact behaviour_of_denotes ha s f hS hA a (.cb k) h5 h6 hd (hb_cb hlt')
    · intro n hn; subst hn
      exact ⟨(hs n rfl).1, behaviour_of_denotes ha s f hS hA a (.stub n) h5 h6 hd (hb_stub (hs n rfl).2)⟩

/-- **A step that does not write `g` does not change `g`'s class** (reachable states; the stub counter and the adapter table may grow). -/
theorem behaviour_stable {env : Env} {nCb nS nA : Nat} (he : EnvOk env) (ha : AddrOk env nCb nS nA) (ops : List Op) (op : Op) (g : Nat)
    (hS : (step env (run env (init env) ops) op).1.nStubs ≤ nS) (hA : (step env (run env (init env) ops) op).1.nAdapt ≤ nA) :
    let s := run env (init env) ops
    (step env s op).1.text g = s.text g → behaviour env (step env s op).1 nCb g = behaviour env s nCb g := by
  intro s htx
  have hS : (step env s op).1.nStubs ≤ nS := hS
  have hA : (step env s op).1.nAdapt ≤ nA := hA
  have hi : Inv env s := reachable_inv_init he ops
  have ho : Own env s := reachable_own he ops (inv_init env) (own_init env)
  have hle := (step_spec he hi op).le
  have hS0 : s.nStubs ≤ nS := Nat.le_trans hle.nStubs hS
  have hA0 : s.nAdapt ≤ nA := Nat.le_trans hle.nAdapt hA
  rcases entry_cases he hi ho g with h | ⟨id, imp, a, _, _, _, _, _, hd, h5, h6, hs⟩
  · rw [(behaviour_of_text ha s g hS0 hA0).1 (by rw [h]),
        (behaviour_of_text ha _ g hS hA).1 (by rw [htx, h])]
  · -- same bytes; the class is read off what the jump denotes, which the step does not change
    have h5' : ((step env s op).1.text g).take 13 = jumpTo a := by rw [htx]; exact h5
    cases imp with
    | cb k =>
      by_cases hk : k < nCb
      · rw [behaviour_of_denotes ha _ g hS hA a (.cb k) h5' h6 (hd.mono hle) (hb_cb hk),
            behaviour_of_denotes ha s g hS0 hA0 a (.cb k) h5 h6 hd (hb_cb hk)]
      · -- a callback the observer does not know: reached only through an adapter, or unknown in both states
        rcases hd with e | ⟨n, hn, e, hin⟩
        · subst e
          -- neither the stub search nor the adapter search sees it, in either state
          have nost : ∀ N, N ≤ nS → (List.range N).find? (fun n => decide ((s.text g).take 13 = jumpTo (env.stubAddr n))) = none :=
            fun N hN => (find?_jump h5 env.stubAddr N).2 fun x hx e => ha.disjoint k x (Nat.lt_of_lt_of_le hx hN) e.symm
          have noad : ∀ (st : St), st.nAdapt ≤ nA → adaptClass env st ((s.text g).take 13) = .unknown := by
            intro st hst
            unfold adaptClass
            rw [(find?_jump h5 env.adaptAddr st.nAdapt).2 fun x hx e => ha.adapt_cb k x (Nat.lt_of_lt_of_le hx hst) e.symm]
          unfold behaviour
          simp only [htx, nost _ hS, nost _ hS0, noad _ hA, noad s hA0]
        · subst e
          rw [(behaviour_of_text ha _ g hS hA).2.2.2 n (.cb k) (Nat.lt_of_lt_of_le hn hle.nAdapt) (by rw [hle.adapt n hn]; exact hin) h5' h6,
              (behaviour_of_text ha s g hS0 hA0).2.2.2 n (.cb k) hn hin h5 h6]
    | stub n =>
      have hlt := (hs n rfl).2
      rw [behaviour_of_denotes ha _ g hS hA a (.stub n) h5' h6 (hd.mono hle) (hb_stub (Nat.lt_of_lt_of_le hlt hle.nStubs)),
          behaviour_of_denotes ha s g hS0 hA0 a (.stub n) h5 h6 hd (hb_stub hlt)]

/-- the function and callback an `Apply` goes to, for every way of reaching the mocker: builder lookup, struct-level lookup
    (fresh or through a kept struct mocker), kept mocker handle -/
def applyTarget (s : St) : Op → Option (Nat × Nat)
  | .apply _ key k _ => some (key % 1000, k)
  | .sapply b key k _ kept => (structOf s b kept).map (fun _ => (key % 1000, k))
  | .applyH b key k => (s.handle b key).map (fun id => ((s.mockers id).target, k))
  | _ => none

/-- the function a `Return`/`When` goes to -/
def retTarget (s : St) : Op → Option Nat
  | .ret _ key _ => some (key % 1000)
  | .sret b key _ kept => (structOf s b kept).map (fun _ => key % 1000)
  | .retH b key => (s.handle b key).map (fun id => (s.mockers id).target)
  | _ => none

/-- the class of a function that is `MockedWith` an implementation the observer knows -/
theorem class_of_mockedWith {env : Env} {nCb nS nA : Nat} (ha : AddrOk env nCb nS nA) (post : St) (t : Nat) (imp : Imp)
    (hS : post.nStubs ≤ nS) (hA : post.nAdapt ≤ nA) (hm : MockedWith env post t imp)
    (hb : (∀ k, imp = .cb k → k < nCb) ∧ (∀ n, imp = .stub n → n < post.nStubs)) :
    behaviour env post nCb t = classOf imp := by
  obtain ⟨a, h1, h2, h3, _⟩ := hm
  refine behaviour_of_denotes ha post t hS hA a imp ?_ h2 h3 hb
  rw [h1]
  exact overwrite_takeJ _ _ (C02L.jump_length a)

/-- **After a successful `Apply(cb k)` — through any via — the target's class is exactly `cb k`**: its bytes are the pristine bytes
    with one entry jump that leads to that callback's funcval (`entry_dispatch` says the jump enters the funcval it names) — for
    a generic target through a freshly installed adapter that drops the dictionary word and forwards the arguments. -/
theorem apply_class {env : Env} {nCb nS nA : Nat} (he : EnvOk env) (ha : AddrOk env nCb nS nA) {s : St} (hi : Inv env s) (op : Op) (t k : Nat)
    (hop : applyTarget s op = some (t, k)) (hok : (step env s op).2 = none) (hk : k < nCb)
    (hS : (step env s op).1.nStubs ≤ nS) (hA : (step env s op).1.nAdapt ≤ nA) :
    MockedWith env (step env s op).1 t (.cb k) ∧ behaviour env (step env s op).1 nCb t = .cb k := by
  have key : MockedWith env (step env s op).1 t (.cb k) := by
    cases op with
    | apply b key k' origin =>
      cases hop
      exact doApply_ok he hi b key _ origin hok
    | sapply b key k' origin kept =>
      simp only [applyTarget] at hop
      cases hs : structOf s b kept with
      | none => rw [hs] at hop; cases hop
      | some r =>
        rw [hs] at hop
        cases hop
        simp only [step, hs] at hok ⊢
        exact doApply_ok he (structOf_spec hi b kept r hs).1.inv r.2 key _ origin hok
    | applyH b key k' =>
      simp only [applyTarget] at hop
      cases hh : s.handle b key with
      | none => rw [hh] at hop; cases hop
      | some id =>
        rw [hh] at hop
        cases hop
        simp only [step, hh] at hok ⊢
        exact applyCb_mocked he hi id _ hok
    | _ => cases hop
  exact ⟨key, class_of_mockedWith ha _ t (.cb k) hS hA key (hb_cb hk)⟩

/-- **After a successful `Return`/`When` that builds a new `When` — through any via — the target's class is exactly the
    new stub**: the stub counter grew by one, and the entry is one jump over the pristine bytes that leads to that stub (through a
    fresh adapter for a generic target). -/
theorem ret_class {env : Env} {nCb nS nA : Nat} (he : EnvOk env) (ha : AddrOk env nCb nS nA) {s : St} (hi : Inv env s) (op : Op) (t : Nat)
    (hop : retTarget s op = some t) (hok : (step env s op).2 = none) (hnew : (step env s op).1.nStubs = s.nStubs + 1)
    (hS : (step env s op).1.nStubs ≤ nS) (hA : (step env s op).1.nAdapt ≤ nA) :
    MockedWith env (step env s op).1 t (.stub s.nStubs) ∧ behaviour env (step env s op).1 nCb t = .stub s.nStubs := by
  have key : MockedWith env (step env s op).1 t (.stub s.nStubs) := by
    cases op with
    | ret b key origin =>
      cases hop
      exact doRet_ok he hi b key origin hnew hok
    | sret b key origin kept =>
      simp only [retTarget] at hop
      cases hs : structOf s b kept with
      | none => rw [hs] at hop; cases hop
      | some r =>
        rw [hs] at hop
        cases hop
        simp only [step, hs] at hok hnew ⊢
        obtain ⟨ir, _, hn⟩ := structOf_spec hi b kept r hs
        rw [← hn] at hnew ⊢
        exact doRet_ok he ir.inv r.2 key origin hnew hok
    | retH b key =>
      simp only [retTarget] at hop
      cases hh : s.handle b key with
      | none => rw [hh] at hop; cases hop
      | some id =>
        rw [hh] at hop
        cases hop
        simp only [step, hh] at hok hnew ⊢
        exact ret_mocked he hi id hnew hok
    | _ => cases hop
  exact ⟨key, class_of_mockedWith ha _ t (.stub s.nStubs) hS hA key (hb_stub (by omega))⟩

/-- **Operations on one target never change another target's class**, over all reachable states: `behaviour_stable` with the
    frame as hypothesis `hframe` (which `other_targets_untouched` provides for every operation that does not aim at `f`). -/
theorem other_targets_class_unchanged {env : Env} {nCb nS nA : Nat} (he : EnvOk env) (ha : AddrOk env nCb nS nA) (ops : List Op) (op : Op)
    (f : Nat) (hS : (step env (run env (init env) ops) op).1.nStubs ≤ nS) (hA : (step env (run env (init env) ops) op).1.nAdapt ≤ nA)
    (hframe : (step env (run env (init env) ops) op).1.text f = (run env (init env) ops).text f) :
    behaviour env (step env (run env (init env) ops) op).1 nCb f = behaviour env (run env (init env) ops) nCb f :=
  behaviour_stable he ha ops op f hS hA hframe

/-! The hypotheses of the theorems above are satisfiable by a non-trivial state (`exEnv` and the examples after it): two builders
    mock the same 16-byte function one after the other, the first builder resets: the image is pristine again and the invariant's
    right-hand alternative was inhabited in between. -/

def exEnv : Env where
  pristine := fun _ => [0x49#8, 0x3b#8, 0x66#8, 0x10#8, 0x76#8, 0x62#8, 0x55#8, 0x48#8, 0x89#8, 0xe5#8, 0x48#8, 0x83#8, 0xec#8, 0x18#8, 0x48#8, 0xb9#8]
  funcSize := fun _ => 64
  phSize := fun _ => 224
  fixOk := fun _ _ => true
  cbAddr := fun k => BitVec.ofNat 64 (0x6b3900 + 8 * (k % 1024))
  stubAddr := fun n => BitVec.ofNat 64 (0xc000000000 + 16 * n)
  generic := fun f => f == 5
  adaptAddr := fun n => BitVec.ofNat 64 (0xd000000000 + 16 * n)

example : EnvOk exEnv := by intro f; simp [exEnv]

example : let s := run exEnv (init exEnv) [.apply 0 3 1 none, .apply 1 3 2 (some 0)]
    s.text 3 ≠ exEnv.pristine 3 ∧ behaviour exEnv s 4 3 = .cb 2 ∧ s.cache 0 3 = some 0 ∧ (s.mockers 0).guard = some 0 ∧
    (s.guards 0).applied = true ∧ s.ph 0 = some 3 := by decide

example : let s := run exEnv (init exEnv) [.apply 0 3 1 none, .apply 1 3 2 (some 0), .reset 0]
    s.text 3 = exEnv.pristine 3 ∧ behaviour exEnv s 4 3 = .orig := by decide

/-- a struct mocker kept before its first `.Method()`, a fresh lookup in between, mocks through both: Reset restores both -/
example : let s := run exEnv (init exEnv) [.keepS 0, .sapply 0 2007 1 none false, .sapply 0 2008 2 none true]
    s.text 7 ≠ exEnv.pristine 7 ∧ s.text 8 ≠ exEnv.pristine 8 ∧ s.scache 0 = some 100 ∧ s.shandle 0 = some 100 ∧
    s.scanceled 100 = false ∧ (step exEnv s (.reset 0)).1.text 7 = exEnv.pristine 7 ∧
    (step exEnv s (.reset 0)).1.text 8 = exEnv.pristine 8 := by decide

example : AddrOk exEnv 4 16 16 := by
  -- below 2^64 `BitVec.ofNat 64` is injective, so each clause is linear arithmetic on the offsets
  have inj : ∀ a b : Nat, a < 2 ^ 64 → b < 2 ^ 64 → BitVec.ofNat 64 a = BitVec.ofNat 64 b → a = b := fun a b ha hb h => by
    have := congrArg BitVec.toNat h
    rwa [BitVec.toNat_ofNat, BitVec.toNat_ofNat, Nat.mod_eq_of_lt ha, Nat.mod_eq_of_lt hb] at this
  refine ⟨?_, ?_, ?_, ?_, ?_, ?_⟩
  · intro k k' hk hk' h
    have := inj _ _ (by omega) (by omega) h
    omega
  · intro n n' hn hn' h
    have := inj _ _ (by omega) (by omega) h
    omega
  · intro k n hn h
    have := inj _ _ (by omega) (by omega) h
    omega
  · intro n n' hn hn' h
    have := inj _ _ (by omega) (by omega) h
    omega
  · intro k n hn h
    have := inj _ _ (by omega) (by omega) h
    omega
  · intro m n hm hn h
    have := inj _ _ (by omega) (by omega) h
    omega

/-- a generic target (function 5): the entry jump leads to an adapter, the class is the callback's / the stub's; Reset restores -/
example : let s := run exEnv (init exEnv) [.apply 0 5 1 none, .ret 1 5 none]
    s.nAdapt = 2 ∧ s.adapt 0 = some (.cb 1) ∧ s.adapt 1 = some (.stub 0) ∧ behaviour exEnv s 4 5 = .stub 0 ∧
    behaviour exEnv (run exEnv (init exEnv) [.apply 0 5 1 none]) 4 5 = .cb 1 ∧
    (run exEnv (init exEnv) [.apply 0 5 1 none]).text 5 = overwrite (exEnv.pristine 5) (jumpTo (exEnv.adaptAddr 0)) ∧
    (step exEnv s (.reset 1)).1.text 5 = exEnv.pristine 5 := by decide

/-- hypotheses of `apply_class` / `ret_class` / `behaviour_stable`: a callback through a kept struct mocker, then a stub on
    another function through a kept handle; both succeed, a new stub is created, the first target's class is unchanged -/
example : let s := run exEnv (init exEnv) [.keepS 0, .sapply 0 2007 1 none true, .keep 0 3]
    applyTarget (run exEnv (init exEnv) [.keepS 0]) (.sapply 0 2007 1 none true) = some (7, 1) ∧
    retTarget s (.retH 0 3) = some 3 ∧ (step exEnv s (.retH 0 3)).2 = none ∧
    (step exEnv s (.retH 0 3)).1.nStubs = s.nStubs + 1 ∧ (step exEnv s (.retH 0 3)).1.nStubs ≤ 16 ∧
    behaviour exEnv (step exEnv s (.retH 0 3)).1 4 3 = .stub 0 ∧ behaviour exEnv (step exEnv s (.retH 0 3)).1 4 7 = .cb 1 := by
  decide

/-- hypotheses of `remock_after_reset_struct`: the kept struct mocker is the builder's -/
example : let s := run exEnv (init exEnv) [.keepS 0, .sapply 0 2007 1 none false]
    s.scache 0 = some 100 ∧ s.shandle 0 = some 100 ∧
    (step exEnv (step exEnv s (.reset 0)).1 (.sapply 0 2007 2 none true)).2 = none := by decide

/-- hypotheses of `reset_step_restores` (struct level) and `cancel_restores` -/
example : let s := run exEnv (init exEnv) [.sapply 0 2007 1 none false, .apply 0 3 2 none]
    s.scache 0 = some 100 ∧ s.cache 100 2007 = some 0 ∧ (s.mockers 0).guard = some 0 ∧ (s.guards 0).applied = true ∧
    s.cache 0 3 = some 1 ∧ (s.mockers 1).canceled = false ∧ (s.mockers 1).guard = some 1 ∧ (s.guards 1).applied = true := by decide

/-- hypotheses of `refused_apply_leaves_pristine`: a re-mock after Reset whose placeholder is refused -/
example : let env := { exEnv with fixOk := fun _ _ => false }
    let s := run env (init env) [.apply 0 3 1 none, .reset 0]
    (doApply env s 0 3 2 (some 0)).2 = some .fixOrigin ∧ (doApply env s 0 3 2 (some 0)).1.text 3 = env.pristine 3 := by decide

example : 13 < exEnv.funcSize (3 % 1000) ∧ Gen.Amd64.checkAlreadyPatch ((exEnv.pristine (3 % 1000)).take 13) = false := by decide

end C02
