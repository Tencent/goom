import GoomVerif.Lemmas.C04L
/-! # C04 — conditional stubs select by the first matching condition, else default, else panic

All statements are about `Model/When.lean`, the transcription of `when.go`, `matcher.go`, `arg/expr.go`,
`arg/value.go` and `callback` (`mocker.go:146`), for an arbitrary argument equality `eqv` (property C18 owns its algebra).
A configuration is what the property calls well-formed: an optional default `Return(d)` first, then any number of
`When(exprs...).Return(r)` / `In(alternatives...).Return(r)` clauses; `build` runs the corresponding API calls in
order (the first through the mocker, i.e. `CreateWhen`).  A call is `encodeCall`: receiver first for methods, fixed
parameters, the variadic tail packed into one slice — what `reflect.MakeFunc` hands to `callback`. -/
namespace C04
open When

/-- Clause "plain values by equality, Any always, In by membership": the evaluator transcribed from `arg/expr.go`
    returns true exactly when the declarative meaning holds, for every expression tree (nested `In` included). -/
theorem expr_eval_sound (eqv : Val → Val → Bool) (e : Spec) (x : Val) :
    Spec.eval eqv e x = true ↔ Spec.Sat eqv e x := eval_iff eqv e x

/-- `Sat` of a tuple is position by position, over equal lengths. -/
theorem satTuple_pointwise (eqv : Val → Val → Bool) : ∀ (es : List Spec) (xs : List Val),
    SatTuple eqv es xs ↔ es.length = xs.length ∧ ∀ i (h1 : i < es.length) (h2 : i < xs.length), Spec.Sat eqv es[i] xs[i] := by
  intro es
  induction es with
  | nil =>
    intro xs
    cases xs with
    | nil => exact ⟨fun _ => ⟨rfl, fun i h => absurd h (Nat.not_lt_zero i)⟩, fun _ => trivial⟩
    | cons x xs => exact ⟨False.elim, fun h => absurd h.1.symm (Nat.succ_ne_zero _)⟩
  | cons e es ih =>
    intro xs
    cases xs with
    | nil => exact ⟨False.elim, fun h => absurd h.1 (Nat.succ_ne_zero _)⟩
    | cons x xs =>
      show Spec.Sat eqv e x ∧ SatTuple eqv es xs ↔ _
      rw [ih xs]
      constructor
      · rintro ⟨h0, hl, hr⟩
        refine ⟨congrArg (· + 1) hl, fun i h1 h2 => ?_⟩
        cases i with
        | zero => exact h0
        | succ j => exact hr j (Nat.lt_of_succ_lt_succ h1) (Nat.lt_of_succ_lt_succ h2)
      · rintro ⟨hl, hr⟩
        exact ⟨hr 0 (Nat.zero_lt_succ _) (Nat.zero_lt_succ _), Nat.succ.inj hl,
          fun i h1 h2 => hr (i + 1) (Nat.succ_lt_succ h1) (Nat.succ_lt_succ h2)⟩

/-- `In` is membership: some alternative holds. -/
theorem satAlts_membership (eqv : Val → Val → Bool) (alts : List (List Spec)) (xs : List Val) :
    SatAlts eqv alts xs ↔ ∃ a ∈ alts, SatTuple eqv a xs := by
  induction alts with
  | nil => simp [SatAlts]
  | cons a rest ih => simp [SatAlts, ih]

/-- A condition holds of the logical argument tuple (receiver excluded, variadic tail flattened). -/
def Holds (eqv : Val → Val → Bool) : Cond → List Val → Prop
  | .when specs, xs => SatTuple eqv specs xs
  | .isIn alts, xs => SatAlts eqv alts xs

theorem holdsB_iff (eqv : Val → Val → Bool) (c : Cond) (xs : List Val) : c.holdsB eqv xs = true ↔ Holds eqv c xs := by
  cases c with
  | when specs => exact evalTuple_iff eqv specs xs
  | isIn alts => exact evalAlts_iff eqv alts xs

/-- Well-formed configuration for a signature, as the property quantifies it: every condition has one expression per
    parameter (a variadic tail may have any number, including none — also in a *first* `When`, repaired `checkParams`),
    and something is registered at all. -/
structure WFfull (sig : Sig) (cfg : Config) : Prop where
  conds_wf : ∀ p ∈ cfg.conds, p.1.WF sig
  nonempty : cfg.dflt = none → cfg.conds ≠ []

/-- The excluded case (known finding K1): the configuration starts with `When()` without any argument.  Go passes a
    nil slice, `CreateWhen` takes it for "no condition" and the following `Return` becomes the default. -/
def firstWhenHasArgs (cfg : Config) : Bool :=
  match cfg.dflt, cfg.conds with
  | none, (Cond.when [], _) :: _ => false
  | _, _ => true

/-- The property at full strength (every well-formed configuration).  It is *false* for the code as it is — see
    `Findings/C04K1.lean` — because of the excluded case above; `invoke_spec` proves it with that case excluded. -/
def invoke_spec_full : Prop :=
  ∀ (eqv : Val → Val → Bool) (sig : Sig) (cfg : Config), WFfull sig cfg →
    ∃ w, build sig (cfg.script sig) = .ok w ∧
      ∀ (recv : Val) (xs : List Val), (w.invoke eqv (encodeCall sig recv xs)).map Prod.fst = specOut eqv sig cfg xs

private theorem wf_of_full (sig : Sig) (cfg : Config) (h : WFfull sig cfg) (hk : firstWhenHasArgs cfg = true) : cfg.WF sig := by
  refine ⟨h.conds_wf, h.nonempty, ?_⟩
  intro hd specs r rest hc hs
  rw [firstWhenHasArgs, hd, hc, hs] at hk
  cases hk

private theorem built (sig : Sig) (cfg : Config) (h : WFfull sig cfg) (hk : firstWhenHasArgs cfg = true) :
    ∃ w, build sig (cfg.script sig) = .ok w ∧ Inv sig cfg.dflt cfg.conds w :=
  build_inv sig cfg (wf_of_full sig cfg h hk)

/-- **invoke = firstMatch** (partial only in the one excluded configuration shape K1).  For every signature shape
    (any `nIn`, variadic or not, method or not, any `numOut`), every well-formed configuration and every call
    (any receiver, any argument tuple of any length): building the configuration succeeds and the call returns the
    result of the first registered condition that holds, else the default, else panics `nosuitable` / returns
    nothing for a function without results (`specOut`). -/
theorem invoke_spec (eqv : Val → Val → Bool) (sig : Sig) (cfg : Config) (h : WFfull sig cfg)
    (hk : firstWhenHasArgs cfg = true) :
    ∃ w, build sig (cfg.script sig) = .ok w ∧
      ∀ (recv : Val) (xs : List Val), (w.invoke eqv (encodeCall sig recv xs)).map Prod.fst = specOut eqv sig cfg xs := by
  obtain ⟨w, hb, hi⟩ := built sig cfg h hk
  exact ⟨w, hb, fun recv xs => invoke_inv hi (normalize_encode sig recv xs)⟩

/-- The same for a **compiled call site**, which hands the callback a *nil* slice when no variadic argument is given
    (`reflect.Value.Call` and `When.Eval` pass an empty non-nil one): the answer does not depend on it. -/
theorem invoke_spec_direct (eqv : Val → Val → Bool) (sig : Sig) (cfg : Config) (h : WFfull sig cfg)
    (hk : firstWhenHasArgs cfg = true) :
    ∃ w, build sig (cfg.script sig) = .ok w ∧
      ∀ (recv : Val) (xs : List Val), (w.invoke eqv (encodeCallDirect sig recv xs)).map Prod.fst = specOut eqv sig cfg xs := by
  obtain ⟨w, hb, hi⟩ := built sig cfg h hk
  exact ⟨w, hb, fun recv xs => invoke_inv hi (normalize_encodeG true sig recv xs)⟩

/-- `f(1)` compiled, on `f(a int, xs ...int)` stubbed with `Return(0).When(1).Return(5)`: the callback receives
    `[1, nil-slice]` and the condition still matches; with a tail it does not -/
example : (match build { nIn := 2, variadic := true, isMethod := false, numOut := 1 } [.ret 1 0, .when (some [.val 1]), .ret 1 5] with
    | .ok w => [encodeCallDirect w.sig 0 [1] = [Arg.one 1, Arg.nilPack],
                (w.invoke (· == ·) (encodeCallDirect w.sig 0 [1])).map Prod.fst = .ok (.ret 5),
                (w.invoke (· == ·) (encodeCallDirect w.sig 0 [1, 1])).map Prod.fst = .ok (.ret 0)]
    | .error _ => []) = [True, True, True] := by
  show [_, _, _] = _
  simp only [List.cons.injEq, eq_iff_iff, iff_true, and_true]
  exact ⟨rfl, by decide +kernel, by decide +kernel⟩

/-- **Histories.** The `When` is live: after the configuration is built, registrations of further conditions and
    calls (through reflect or compiled call sites, any receiver, any arguments) may alternate arbitrarily; every
    registration is accepted and every call answers by exactly the conditions registered *before that call*, first
    match in registration order, else default, else panic (`expected`).  In particular a call never freezes the list:
    `Return(0); f(1); When(1).Return(5); f(1)` answers 0 then 5.  (Single-result conditions; cursors are C05.) -/
theorem history_spec (eqv : Val → Val → Bool) (sig : Sig) (cfg : Config) (h : WFfull sig cfg)
    (hk : firstWhenHasArgs cfg = true) :
    ∃ w, build sig (cfg.script sig) = .ok w ∧
      ∀ evs : List Ev, EvsWF sig evs → w.run eqv (evSteps sig evs) = expected eqv sig cfg.dflt cfg.conds evs := by
  obtain ⟨w, hb, hi⟩ := built sig cfg h hk
  exact ⟨w, hb, fun evs hwf => run_history eqv sig cfg.dflt evs cfg.conds w hi hwf⟩

/-- the interleaved history of the doc comment, computed: 0, then (after `When(1).Return(5)`) 5, and 0 for another argument -/
example : (match build { nIn := 1, variadic := false, isMethod := false, numOut := 1 } [.ret 1 0] with
    | .ok w => w.run (· == ·) (evSteps { nIn := 1, variadic := false, isMethod := false, numOut := 1 }
        [.call false 0 [1], .reg (.when [.val 1]) 5, .call false 0 [1], .call true 0 [2]])
    | .error _ => []) = [.out (.ret 0), .ok, .ok, .out (.ret 5), .out (.ret 0)] := by decide +kernel

/-- The same through `When.Eval` (repaired: arguments shaped like a real call). -/
theorem eval_spec (eqv : Val → Val → Bool) (sig : Sig) (cfg : Config) (h : WFfull sig cfg)
    (hk : firstWhenHasArgs cfg = true) :
    ∃ w, build sig (cfg.script sig) = .ok w ∧
      ∀ (xs : List Val), arityOk sig xs.length → (w.evalCall eqv xs).map Prod.fst = specOut eqv sig cfg xs := by
  obtain ⟨w, hb, hi⟩ := built sig cfg h hk
  refine ⟨w, hb, fun xs hx => ?_⟩
  rw [evalCall_of_arity eqv (hi.sig_eq ▸ hx), hi.sig_eq]
  exact invoke_inv hi (normalize_encode sig 0 xs)

/-- `Matches(Pair{args, ret}, ...)` after a well-formed configuration is the same as one `When(args...).Return(ret)`
    per pair, in order, behind the conditions registered so far; the default and earlier conditions are untouched.
    (`numOut ≠ 0`: for a function without results the pair carries no result list, which the model does not cover.) -/
theorem matches_spec (eqv : Val → Val → Bool) (sig : Sig) (cfg : Config) (h : WFfull sig cfg)
    (hk : firstWhenHasArgs cfg = true) (_ho : sig.numOut ≠ 0) (ps : List (List Spec × Res))
    (hps : ∀ p ∈ ps, (Cond.when p.1).WF sig) :
    ∃ w w', build sig (cfg.script sig) = .ok w ∧ w.matchPairs ps = .ok w' ∧
      ∀ (recv : Val) (xs : List Val), (w'.invoke eqv (encodeCall sig recv xs)).map Prod.fst =
        specOut eqv sig { dflt := cfg.dflt, conds := cfg.conds ++ pairConds ps } xs := by
  obtain ⟨w, hb, hi⟩ := built sig cfg h hk
  obtain ⟨w', hm, hi'⟩ := matchPairs_inv hi hps
  exact ⟨w, w', hb, hm, fun recv xs =>
    invoke_inv (cfg := ⟨cfg.dflt, cfg.conds ++ pairConds ps⟩) hi' (normalize_encode sig recv xs)⟩

/-- A first `Returns()` without any value is `Return()` (repaired mockers): for a function with results it is refused with
    the result-count error instead of installing a stub that panics on every call; for a result-less function it
    installs what `Return()` installs — a default with the (empty) result tuple 0, `Inv sig (some 0) []` — on which
    conditions can then be registered as after any default. -/
theorem first_empty_returns_checked (sig : Sig) :
    first sig (.returns []) = first sig (.ret 0 0) ∧
    (sig.numOut ≠ 0 → first sig (.returns []) = .error .retlen) ∧
    (sig.numOut = 0 → ∃ w, first sig (.returns []) = .ok w ∧ Inv sig (some 0) [] w) := by
  refine ⟨rfl, fun h => ?_, fun h => by have := createWhen_dflt_inv sig 0; rwa [h] at this⟩
  -- `checkParams` compares the count 0 with `numOut`, a successor here
  obtain ⟨nIn, v, m, numOut⟩ := sig
  cases numOut with
  | zero => exact absurd rfl h
  | succ n => rfl

example : first { nIn := 1, variadic := false, isMethod := false, numOut := 1 } (.returns []) = .error .retlen := by rfl

/-- `In()` without alternatives is a condition like any other: well-formed for every signature, it holds of no argument
    tuple.  These two facts are all the statement says; with `invoke_spec` / `history_spec` they give that it is
    registered in its place, is skipped by every call, and that the `Return` that follows it belongs to *it*, not to
    the condition or default registered before — the example below computes one such history. -/
theorem in_empty_never_holds (eqv : Val → Val → Bool) (sig : Sig) (xs : List Val) :
    (Cond.isIn []).WF sig ∧ ¬ Holds eqv (Cond.isIn []) xs := by
  constructor
  · intro a ha
    cases ha
  · simp [Holds, SatAlts]

/-- `Return(0).When(1).Return(1).In().Return(2)`: calls with 1 keep answering 1, others the default; result 2 is unreachable -/
example : (match build { nIn := 1, variadic := false, isMethod := false, numOut := 1 }
      (Config.script { nIn := 1, variadic := false, isMethod := false, numOut := 1 }
        { dflt := some 0, conds := [(.when [.val 1], 1), (.isIn [], 2)] }) with
    | .ok w => w.run (· == ·) [.call false 0 [1], .call false 0 [1], .call false 0 [0]]
    | .error _ => []) = [.out (.ret 1), .out (.ret 1), .out (.ret 0)] := by decide +kernel

/-- A `When(exprs...)` condition is registered **verbatim**: one expression per written argument, whatever the values
    are — in particular a single variadic value that happens to be a slice (a `[]interface{}` passed as ONE element of
    a `...interface{}` tail) is one expression and, by `variadic_elementwise`, is compared with one element of the call. -/
theorem when_condition_verbatim (sig : Sig) (specs : List Spec) (rs : List Res)
    (ha : arityOk sig specs.length) (hr : tupleResolves specs = true) :
    newDefaultMatch sig specs rs = .ok { kind := .dflt specs, results := rs, cur := 0 } :=
  newDefaultMatch_ok rs ha hr

/-- `f(s, xs ...interface{})`, `When(2, 3)` where value 3 is a slice whose members are the values 0 and 1:
    the call `f(2, 3)` matches, `f(2, 0, 1)` does not -/
example : (match build { nIn := 2, variadic := true, isMethod := false, numOut := 1 } [.ret 1 0, .when (some [.val 2, .val 3]), .ret 1 1] with
    | .ok w => w.run (· == ·) [.call false 0 [2, 3], .call false 0 [2, 0, 1]]
    | .error _ => []) = [.out (.ret 1), .out (.ret 0)] := by decide +kernel

private theorem find_none (eqv : Val → Val → Bool) (cfg : Config) (xs : List Val) (hnone : ∀ p ∈ cfg.conds, ¬ Holds eqv p.1 xs) :
    cfg.conds.find? (fun p => p.1.holdsB eqv xs) = none :=
  List.find?_eq_none.2 fun p hp hh => hnone p hp ((holdsB_iff eqv p.1 xs).1 hh)

section clauses
variable (eqv : Val → Val → Bool) (sig : Sig) (cfg : Config) (hw : WFfull sig cfg) (hk : firstWhenHasArgs cfg = true)
include hw hk

/-- each clause below reads one case off `specOut` -/
private theorem answers (recv : Val) (xs : List Val) (out : Except Err Out) (h : specOut eqv sig cfg xs = out) :
    ∃ w, build sig (cfg.script sig) = .ok w ∧ (w.invoke eqv (encodeCall sig recv xs)).map Prod.fst = out := by
  obtain ⟨w, hb, hinv⟩ := invoke_spec eqv sig cfg hw hk
  exact ⟨w, hb, (hinv recv xs).trans h⟩

/-- First registered condition that holds wins; later conditions that also hold (ties) are irrelevant:
    registration order decides. -/
theorem first_match_wins (pre post : List (Cond × Res)) (c : Cond) (r : Res) (recv : Val) (xs : List Val)
    (hsplit : cfg.conds = pre ++ (c, r) :: post) (hpre : ∀ p ∈ pre, ¬ Holds eqv p.1 xs) (hc : Holds eqv c xs) :
    ∃ w, build sig (cfg.script sig) = .ok w ∧ (w.invoke eqv (encodeCall sig recv xs)).map Prod.fst = .ok (.ret r) := by
  apply answers eqv sig cfg hw hk
  have hnone : pre.find? (fun p => p.1.holdsB eqv xs) = none :=
    List.find?_eq_none.2 fun p hp hh => hpre p hp ((holdsB_iff eqv p.1 xs).1 hh)
  rw [specOut, hsplit, List.find?_append, hnone, Option.none_or, List.find?_cons, (holdsB_iff eqv c xs).2 hc]

/-- No condition holds and a default is configured: the default. -/
theorem default_when_none_match (d : Res) (recv : Val) (xs : List Val)
    (hnone : ∀ p ∈ cfg.conds, ¬ Holds eqv p.1 xs) (hd : cfg.dflt = some d) :
    ∃ w, build sig (cfg.script sig) = .ok w ∧ (w.invoke eqv (encodeCall sig recv xs)).map Prod.fst = .ok (.ret d) := by
  apply answers eqv sig cfg hw hk
  rw [specOut, find_none eqv cfg xs hnone, hd]

/-- No default, no condition holds, the function has results: panic "no suitable condition", never garbage. -/
theorem no_default_panics (recv : Val) (xs : List Val)
    (hnone : ∀ p ∈ cfg.conds, ¬ Holds eqv p.1 xs) (hd : cfg.dflt = none) (ho : sig.numOut > 0) :
    ∃ w, build sig (cfg.script sig) = .ok w ∧ (w.invoke eqv (encodeCall sig recv xs)).map Prod.fst = .error .nosuitable := by
  apply answers eqv sig cfg hw hk
  rw [specOut, find_none eqv cfg xs hnone, hd]
  exact if_neg (Nat.ne_of_gt ho)

/-- … and for a function without results there is nothing to return: the call returns normally. -/
theorem no_default_no_results (recv : Val) (xs : List Val)
    (hnone : ∀ p ∈ cfg.conds, ¬ Holds eqv p.1 xs) (hd : cfg.dflt = none) (ho : sig.numOut = 0) :
    ∃ w, build sig (cfg.script sig) = .ok w ∧ (w.invoke eqv (encodeCall sig recv xs)).map Prod.fst = .ok .unit := by
  apply answers eqv sig cfg hw hk
  rw [specOut, find_none eqv cfg xs hnone, hd]
  exact if_pos ho

end clauses

/-- **Receiver ignored**, in any state whatsoever (any history of clauses, any cursors): calls that differ only in
    the receiver get the same outcome and leave the same state. -/
theorem receiver_ignored (eqv : Val → Val → Bool) (w : W) (r1 r2 : Val) (xs : List Val) :
    w.invoke eqv (encodeCall w.sig r1 xs) = w.invoke eqv (encodeCall w.sig r2 xs) :=
  invoke_congr eqv w ((normalize_encode w.sig r1 xs).trans (normalize_encode w.sig r2 xs).symm)

/-- **Variadic arguments are matched element by element**, leading fixed parameters stay whole: for a variadic
    signature with `k = nIn - 1` fixed parameters, the matcher registered by `When(specs...)` accepts the real call
    `f(fixed..., tail...)` (tail packed in a slice by the caller) exactly when there is one expression per fixed
    argument and per tail element and each holds at its position.  The statement assumes neither `sig.variadic` nor
    `fixed.length = nIn - 1`: it holds for every signature and every way of writing the arguments as `fixed ++ tail`;
    `variadic_call_shape` says what the call looks like in the variadic case. -/
theorem variadic_elementwise (eqv : Val → Val → Bool) (sig : Sig)
    (specs : List Spec) (r : Res) (recv : Val) (fixed tail : List Val) :
    ((Cond.when specs).matcher r).matchArgs eqv sig (encodeCall sig recv (fixed ++ tail)) = .ok true ↔
      specs.length = fixed.length + tail.length ∧
      ∀ i (h1 : i < specs.length) (h2 : i < (fixed ++ tail).length), Spec.Sat eqv specs[i] (fixed ++ tail)[i] := by
  rw [matchArgs_cond (Cond.when specs) r (normalize_encode sig recv (fixed ++ tail))]
  simp only [Cond.holdsB, Except.ok.injEq]
  rw [evalTuple_iff, satTuple_pointwise]
  simp only [List.length_append]

/-- what the callback receives for such a call: the fixed arguments one by one, then one packed slice -/
theorem variadic_call_shape (sig : Sig) (hv : sig.variadic = true) (hm : sig.isMethod = false) (recv : Val)
    (fixed tail : List Val) (hk : fixed.length = sig.nIn - 1) :
    encodeCall sig recv (fixed ++ tail) = fixed.map Arg.one ++ [Arg.pack tail] := by
  simp [encodeCall, encodeCallG, hv, hm, ← hk]

/-- The other ways of writing an `In` alternative register the same matcher as the tuple form: a bare value or
    expression is the 1-tuple, for every signature (`In(3, 4)` on `f(int)`, and on `f(int, ...int)` meaning `f(3)` or
    `f(4)`; repaired `InExpr.Resolve`), a typed slice standing for the whole argument list
    of a function whose only parameter is variadic (`In([]T{a, b}, []T{c})` on `f(...T)`). -/
theorem in_alternative_forms (sig : Sig) (i : Nat) (rest : List Alt) :
    (∀ x, resolveIn sig i (Alt.bare x :: rest) = resolveIn sig i (Alt.tuple [x] :: rest)) ∧
    (sig.variadic = true → sig.nIn = 1 → ∀ vs, resolveIn sig i (Alt.slice vs :: rest) = resolveIn sig i (Alt.tuple (vs.map Spec.val) :: rest)) := by
  refine ⟨fun x => rfl, fun hv h1 vs => ?_⟩
  have h : (sig.variadic && decide (sig.nIn - 1 ≤ i)) = true := by
    rw [hv, h1]
    exact decide_eq_true (Nat.zero_le i)
  simp only [resolveIn, h, if_true]

/-! ## The hypotheses are satisfiable: a method, variadic behind two fixed parameters, two results -/

def exSig : Sig := { nIn := 3, variadic := true, isMethod := true, numOut := 2 }
def exCfg : Config :=
  { dflt := some 0,
    conds := [(.when [.val 1, .any, .isIn [[.val 2], [.isIn [[.val 3], [.val 4]]]], .val 7], 1),
              (.isIn [[.any, .val 1, .val 1], [.any, .val 5]], 2),
              (.when [.val 1, .val 5], 3)] }

example : WFfull exSig exCfg ∧ firstWhenHasArgs exCfg = true := ⟨⟨by decide, nofun⟩, rfl⟩

/-- a tie (conditions 2 and 3 both hold of (1,5)): the earlier one is returned; a 4-argument call with a nested `In`;
    a call nothing matches -/
example : (match build exSig (exCfg.script exSig) with
    | .ok w => [(w.invoke (· == ·) (encodeCall exSig 77 [1, 5])).map Prod.fst,
                (w.invoke (· == ·) (encodeCall exSig 78 [1, 9, 4, 7])).map Prod.fst,
                (w.invoke (· == ·) (encodeCall exSig 78 [9, 9, 9])).map Prod.fst]
    | .error e => [.error e]) = [.ok (.ret 2), .ok (.ret 1), .ok (.ret 0)] := by decide +kernel

/-- no default: the panic hypothesis is reachable too -/
example : (match build exSig ({ exCfg with dflt := none }.script exSig) with
    | .ok w => (w.invoke (· == ·) (encodeCall exSig 78 [9, 9, 9])).map Prod.fst
    | .error e => .error e) = .error .nosuitable := by decide +kernel

end C04
