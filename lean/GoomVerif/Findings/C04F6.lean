import GoomVerif.Props.C04
/-! Finding F6 (property C04, repaired by fixes/F6.diff): the unrepaired `DefaultMatcher.Match` (matcher.go:119) and
`InExpr.Eval` (arg/expr.go:99) expanded **every** argument of a variadic function as if it were the variadic
slice.  `normalizeAll` transcribes that loop; on a real call of a function with a leading fixed parameter it
panics inside reflect (`Value.Len` on a non-slice) before any expression is looked at, whereas the repaired
`normalize` yields the logical argument tuple (`When.normalize_encode`).  Also F6b: the unrepaired `InExpr.Eval`
answered false at the first alternative of another length (`evalAltsOld`).  Not obligations. -/
namespace C04
open When

/-- the unrepaired expansion loop: `for _, v := range args { rv := reflect.ValueOf(v.Interface()); rv.Len() ... }` -/
def normalizeAll (sig : Sig) (args : List Arg) : Except Err (List Val) :=
  let args := if sig.isMethod then args.drop 1 else args
  if sig.variadic then
    args.foldlM (fun acc a => match a with
      | .pack vs => pure (acc ++ vs)
      | .nilPack => pure acc
      | .one _ => throw Err.reflect) []
  else ones args

/-- `When(1,"x",7,8)` on `f(int,string,...int)`, call `f(1,"x",7,8)`: the unrepaired code panics in reflect … -/
theorem f6_unrepaired_panics :
    normalizeAll { nIn := 3, variadic := true, isMethod := false, numOut := 1 }
      (encodeCall { nIn := 3, variadic := true, isMethod := false, numOut := 1 } 0 [1, 1, 7, 8]) = .error .reflect := by rfl

/-- … for every call of every variadic function with at least one fixed parameter. -/
theorem f6_unrepaired_panics_all (sig : Sig) (hv : sig.variadic = true) (hm : sig.isMethod = false) (x : Val) (xs : List Val)
    (hk : 2 ≤ sig.nIn) : normalizeAll sig (encodeCall sig 0 (x :: xs)) = .error .reflect := by
  obtain ⟨n, hn⟩ : ∃ n, sig.nIn = n + 2 := ⟨sig.nIn - 2, (Nat.sub_add_cancel hk).symm⟩
  -- the first value the loop meets is the fixed argument `x`, not a slice
  have h : encodeCall sig 0 (x :: xs) = Arg.one x :: ((xs.take n).map Arg.one ++ [Arg.pack (xs.drop n)]) := by
    rw [encodeCall, encodeCallG, hv, hm, hn]
    rfl
  rw [normalizeAll, hv, hm, h]
  rfl

/-- the unrepaired outer loop of `InExpr.Eval`: `if len(input) != len(one) { return false, nil }` -/
def evalAltsOld (eqv : Val → Val → Bool) : List (List Spec) → List Val → Bool
  | [], _ => false
  | one :: rest, xs => if one.length != xs.length then false else (evalTuple eqv one xs || evalAltsOld eqv rest xs)

/-- `In([]interface{}{1,2}, []interface{}{3})` on `f(...int)`, call `f(3)`: membership holds, the old loop said no. -/
theorem f6b_unrepaired_misses :
    evalAltsOld (· == ·) [[.val 1, .val 2], [.val 3]] [3] = false ∧ SatAlts (· == ·) [[.val 1, .val 2], [.val 3]] [3] :=
  ⟨rfl, .inr (.inl ⟨rfl, trivial⟩)⟩

end C04
