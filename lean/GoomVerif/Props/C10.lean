import GoomVerif.Lemmas.C10L
/-!
# C10 — symbol lookup by name yields the exact run-time address or an error

The theorems are about `Model/Sym.lean`, a transcription of `internal/unexports2` (ELF path), for **every**
executable-file content, every pair of tables, every name, every load bias in `BitVec 64` and every history of
`FindFuncByName` / `FindVarByName` / `ExposeFunction` calls in one process (`Sym.resAfter env pre op` is the result
of `op` when called after the arbitrary history `pre`).

What is assumed, not proved (level *partial*): the linker/loader.  `Loaded env T bF bV` says the file loads as the
table `T`, that the anchor function `…unexports2.FindFuncByName` is mapped at its table address plus `bF`, and the
anchor variable `…unexports2.stubVar` at its symbol value plus `bV`.  That *every other* function (data symbol) is
mapped with the same `bF` (`bV`) is the loader's contract — one bias per segment — so `table address + bF` is "the
run-time address of that symbol" in the statements below.  The correspondence run checks that contract, and the model
itself, against the running process in every link mode it builds.
-/
namespace C10
open Sym C10L

variable {N : Type} [DecidableEq N]

/-- The loader assumption.  For variables either the table has no ELF symbols at all (stripped: no variable can be
    found then, see `stripped_vars_error`) or the anchor variable is in it and is mapped at `value + bV`. -/
structure Loaded (env : Env N) (T : Table N) (bF bV : Addr) : Prop where
  load_ok : load env.file = .ok T
  anchorF : ∃ fa, lookup T.funcs env.anchorF = some fa ∧ env.memF = fa + bF
  anchorV : T.syms = [] ∨ ∃ va, lookup T.syms env.anchorV = some va ∧ env.memV = va + bV

omit [DecidableEq N] in
/-- `osReadSymbols` succeeds exactly when the file is ELF, has a `.text` and a readable `.gopclntab`; the function
    table is then the pclntab's entries at `text address + offset` (mod 2^64), the symbol list is the ELF symbol
    table or empty when there is none. -/
theorem load_ok_iff (f : File N) (T : Table N) :
    load f = .ok T ↔ f.openOk = true ∧ f.elfOk = true ∧ ∃ ts es, f.text = some ts ∧ f.pcln = some (some es) ∧
      T.funcs = es.map (fun e => (e.1, ts + e.2)) ∧ T.syms = addrSyms (f.symtab.getD []) := by
  obtain ⟨o, el, tx, pc, sy⟩ := f
  constructor
  · intro h
    cases o
    · cases h
    cases el
    · cases h
    cases tx
    · cases h
    rcases pc with _ | _ | es
    · cases h
    · cases h
    · exact ⟨rfl, rfl, _, es, rfl, rfl, by cases sy <;> cases h <;> exact ⟨rfl, rfl⟩⟩
  · obtain ⟨tf, tsy⟩ := T
    rintro ⟨rfl, rfl, ts, es, rfl, rfl, rfl, rfl⟩
    cases sy <;> rfl

omit [DecidableEq N] in
/-- every way the table cannot be read is an error, and which one -/
theorem load_error_iff (f : File N) (e : Err) :
    load f = .error e ↔
      (f.openOk = false ∧ e = .open) ∨
      (f.openOk = true ∧ f.elfOk = false ∧ e = .elf) ∨
      (f.openOk = true ∧ f.elfOk = true ∧ f.text = none ∧ e = .noText) ∨
      (f.openOk = true ∧ f.elfOk = true ∧ f.text ≠ none ∧ f.pcln = none ∧ e = .noPcln) ∨
      (f.openOk = true ∧ f.elfOk = true ∧ f.text ≠ none ∧ f.pcln = some none ∧ e = .pclnData) := by
  obtain ⟨o, el, tx, pc, sy⟩ := f
  constructor
  · intro h
    cases o
    · exact .inl ⟨rfl, (Except.error.inj h).symm⟩
    cases el
    · exact .inr (.inl ⟨rfl, rfl, (Except.error.inj h).symm⟩)
    cases tx
    · exact .inr (.inr (.inl ⟨rfl, rfl, rfl, (Except.error.inj h).symm⟩))
    rcases pc with _ | _ | es
    · exact .inr (.inr (.inr (.inl ⟨rfl, rfl, nofun, rfl, (Except.error.inj h).symm⟩)))
    · exact .inr (.inr (.inr (.inr ⟨rfl, rfl, nofun, rfl, (Except.error.inj h).symm⟩)))
    · cases sy <;> cases h
  · rintro (⟨rfl, rfl⟩ | ⟨rfl, rfl, rfl⟩ | ⟨rfl, rfl, rfl, rfl⟩ | ⟨rfl, rfl, h, rfl, rfl⟩ | ⟨rfl, rfl, h, rfl, rfl⟩)
    · rfl
    · rfl
    · rfl
    · cases tx
      · exact absurd rfl h
      · rfl
    · cases tx
      · exact absurd rfl h
      · rfl

/-- **unreadable → error**: when the table cannot be read (no `.gopclntab` section as in position-independent
    builds, no `.text`, not ELF, bad pclntab), every lookup of every kind, after any history, returns that error —
    never an address. -/
theorem unreadable_is_error (env : Env N) (e : Err) (h : load env.file = .error e)
    (pre : List (Op N)) (op : Op N) : resAfter env pre op = .err e := by
  rw [resAfter_eq]
  cases op <;> simp only [spec, funcOf, varOf, h, funcIn, varIn, allFuncsIn, resOf]

/-- position-independent builds: the linker emits no section called `.gopclntab`; every lookup is an error -/
theorem pie_is_error (env : Env N) (ts : Addr) (h0 : env.file.openOk = true) (h1 : env.file.elfOk = true)
    (h2 : env.file.text = some ts) (h3 : env.file.pcln = none) (pre : List (Op N)) (op : Op N) :
    resAfter env pre op = .err .noPcln :=
  unreadable_is_error env .noPcln (by simp [load, h0, h1, h2, h3]) pre op

/-- the process' own executable file cannot be opened (deleted, replaced by nothing, no permission): every lookup is
    that error — whatever `argv[0]` or any other file says, no table is consulted and no address is returned -/
theorem exe_gone_is_error (env : Env N) (h : env.file.openOk = false) (pre : List (Op N)) (op : Op N) :
    resAfter env pre op = .err .open :=
  unreadable_is_error env .open (by simp [load, h]) pre op

theorem fAlign_is_bias {env : Env N} {T : Table N} {bF bV : Addr} (L : Loaded env T bF bV) : fAlignOf env = bF := by
  obtain ⟨fa, h1, h2⟩ := L.anchorF
  simp only [fAlignOf, funcOf, funcIn, L.load_ok, h1, h2, slide_eq_bias]

theorem vAlign_is_bias {env : Env N} {T : Table N} {bF bV : Addr} (L : Loaded env T bF bV)
    (va : Addr) (h1 : lookup T.syms env.anchorV = some va) (h2 : env.memV = va + bV) : vAlignOf env = bV := by
  obtain ⟨fa, hf1, _⟩ := L.anchorF
  simp only [vAlignOf, funcOf, varOf, funcIn, varIn, L.load_ok, hf1, h1, h2, slide_eq_bias]

/-- what `FindFuncByName` returns in a loaded process, after any history -/
private theorem findFunc_eq {env : Env N} {T : Table N} {bF bV : Addr} (L : Loaded env T bF bV) (pre : List (Op N)) (n : N) :
    resAfter env pre (.findFunc n) = answer (lookup T.funcs n) .noFunc (· + bF) := by
  rw [resAfter_eq, spec, funcOf, L.load_ok, fAlign_is_bias L, funcIn]
  cases lookup T.funcs n <;> rfl

/-- what `FindVarByName` returns in a loaded process, after any history.  Without ELF symbols the variable slide is
    never computed, and never used either: the answer is the not-found error. -/
private theorem findVar_eq {env : Env N} {T : Table N} {bF bV : Addr} (L : Loaded env T bF bV) (pre : List (Op N)) (n : N) :
    resAfter env pre (.findVar n) = answer (lookup T.syms n) .noVar (· + bV) := by
  rw [resAfter_eq, spec, varOf, L.load_ok, varIn]
  rcases L.anchorV with hnil | ⟨va, h1, h2⟩
  · rw [hnil]; rfl
  · rw [vAlign_is_bias L va h1 h2]
    cases lookup T.syms n <;> rfl

/-- **found ↔ first entry with exactly that name, at its table address plus the bias** (any bias: PIE-style
    relocation, or `.text` not starting at `runtime.text` as with external linking).  Left to right this is
    "never some other symbol's address": an address only ever comes from an entry whose name equals the requested
    name as a whole string.  Right to left it is "every symbol present is found"; with duplicates the first wins. -/
theorem find_func_iff {env : Env N} {T : Table N} {bF bV : Addr} (L : Loaded env T bF bV)
    (pre : List (Op N)) (n : N) (a : Addr) :
    resAfter env pre (.findFunc n) = .ok a ↔
      ∃ p q fa, T.funcs = p ++ (n, fa) :: q ∧ (∀ e ∈ p, e.1 ≠ n) ∧ a = fa + bF := by
  rw [findFunc_eq L]
  exact answer_ok_iff (fun _ _ => rfl) .noFunc a

/-- `ExposeFunction` resolves exactly like `FindFuncByName`, whatever was called before it -/
theorem expose_iff {env : Env N} {T : Table N} {bF bV : Addr} (L : Loaded env T bF bV)
    (pre : List (Op N)) (n : N) (a : Addr) :
    resAfter env pre (.expose n) = .ok a ↔
      ∃ p q fa, T.funcs = p ++ (n, fa) :: q ∧ (∀ e ∈ p, e.1 ≠ n) ∧ a = fa + bF := by
  rw [resAfter_expose]
  exact find_func_iff L pre n a

/-- **present → found** under the uniqueness precondition: every function of the table is resolved to its own
    table address plus the bias -/
theorem present_func_found {env : Env N} {T : Table N} {bF bV : Addr} (L : Loaded env T bF bV)
    (huniq : (T.funcs.map Prod.fst).Nodup) (n : N) (fa : Addr) (hmem : (n, fa) ∈ T.funcs) (pre : List (Op N)) :
    resAfter env pre (.findFunc n) = .ok (fa + bF) := by
  rw [findFunc_eq L, lookup_of_mem_nodup huniq hmem]
  rfl

/-- **absent ↔ error**: a name that no entry carries (prefixes, near-misses, the empty name — anything not equal as a
    whole string) gives the "function symbol not found" error, and that error is given for no other reason -/
theorem absent_func_iff {env : Env N} {T : Table N} {bF bV : Addr} (L : Loaded env T bF bV)
    (pre : List (Op N)) (n : N) :
    resAfter env pre (.findFunc n) = .err .noFunc ↔ ∀ e ∈ T.funcs, e.1 ≠ n := by
  rw [findFunc_eq L, answer_err_iff]

/-- found ↔ first ELF symbol with exactly that name, at its value plus the data bias -/
theorem find_var_iff {env : Env N} {T : Table N} {bF bV : Addr} (L : Loaded env T bF bV)
    (pre : List (Op N)) (n : N) (a : Addr) :
    resAfter env pre (.findVar n) = .ok a ↔
      ∃ p q va, T.syms = p ++ (n, va) :: q ∧ (∀ e ∈ p, e.1 ≠ n) ∧ a = va + bV := by
  rw [findVar_eq L]
  exact answer_ok_iff (fun _ _ => rfl) .noVar a

/-- **present → found**, variables, under the uniqueness precondition: every ELF symbol that has an address is resolved to
    its value plus the data bias -/
theorem present_var_found {env : Env N} {T : Table N} {bF bV : Addr} (L : Loaded env T bF bV)
    (huniq : (T.syms.map Prod.fst).Nodup) (n : N) (va : Addr) (hmem : (n, va) ∈ T.syms) (pre : List (Op N)) :
    resAfter env pre (.findVar n) = .ok (va + bV) := by
  rw [findVar_eq L, lookup_of_mem_nodup huniq hmem]
  rfl

/-- **absent ↔ error**, variables: a name that no address-carrying ELF symbol has gives the "variable symbol not found"
    error (`noVar`), and that error is given for no other reason -/
theorem absent_var_iff {env : Env N} {T : Table N} {bF bV : Addr} (L : Loaded env T bF bV)
    (pre : List (Op N)) (n : N) :
    resAfter env pre (.findVar n) = .err .noVar ↔ ∀ e ∈ T.syms, e.1 ≠ n := by
  rw [findVar_eq L, answer_err_iff]

/-- stripped builds (no ELF symbol table): every variable lookup is the not-found error.  (Functions are not the subject
    here: the function theorems do not mention the symbol table.) -/
theorem stripped_vars_error (env : Env N) (T : Table N) (h : load env.file = .ok T) (hs : env.file.symtab = none)
    (pre : List (Op N)) (n : N) : resAfter env pre (.findVar n) = .err .noVar := by
  obtain ⟨_, _, _, _, _, _, _, hsy⟩ := (load_ok_iff _ _).1 h
  rw [hs] at hsy
  rw [resAfter_eq, spec, varOf, h, varIn, hsy]
  rfl

/-- **entries without an address are not variables**: a name carried only by symbol-table entries that do not name a place
    in the image (undefined references, FILE / SECTION markers, TLS offsets) gives the not-found error, never
    `st_value + slide` (which would be `0`, a TLS offset, …) -/
theorem non_address_symbol_is_error {env : Env N} {T : Table N} {bF bV : Addr} (L : Loaded env T bF bV)
    (ss : List (N × Addr × Bool)) (hss : env.file.symtab = some ss) (n : N)
    (hn : ∀ e ∈ ss, e.1 = n → e.2.2 = false) (pre : List (Op N)) :
    resAfter env pre (.findVar n) = .err .noVar := by
  obtain ⟨_, _, _, _, _, _, _, hsy⟩ := (load_ok_iff _ _).1 L.load_ok
  rw [absent_var_iff L, hsy, hss]
  intro e he hen
  obtain ⟨x, hx, hxe⟩ := List.mem_filterMap.1 he
  cases hb : x.2.2 with
  | false => rw [hb] at hxe; cases hxe
  | true =>
    rw [hb, if_pos rfl, Option.some.injEq] at hxe
    exact Bool.noConfusion ((hn x hx ((congrArg Prod.fst hxe).trans hen)).symm.trans hb)

/-! ## the loader hypothesis, per symbol

`Loaded` fixes the two biases through the anchors only.  The clause of the property — *the exact run-time address of
that symbol, for every symbol* — needs more: that the loader maps EVERY function (data symbol) of the table with that
same bias.  It is stated here as an explicit hypothesis about a map `mem` from table addresses to run-time addresses;
it is not proved (it is the linker's and loader's contract) and it is what the sweep of the check measures on every
symbol against the runtime's own table and `&v`. -/

/-- found ⇔ the run-time address (`memF`) of the first entry with exactly that name, under the per-symbol
    loader hypothesis `hmem` -/
theorem find_func_runtime_address {env : Env N} {T : Table N} {bF bV : Addr} (L : Loaded env T bF bV)
    (memF : Addr → Addr) (hmem : ∀ e ∈ T.funcs, memF e.2 = e.2 + bF) (pre : List (Op N)) (n : N) (a : Addr) :
    resAfter env pre (.findFunc n) = .ok a ↔
      ∃ p q fa, T.funcs = p ++ (n, fa) :: q ∧ (∀ e ∈ p, e.1 ≠ n) ∧ a = memF fa := by
  rw [findFunc_eq L]
  exact answer_ok_iff (fun e he => (hmem e he).symm) .noFunc a

/-- found ⇔ the run-time address (`memV`) of the first ELF symbol with exactly that name, under the per-symbol loader
    hypothesis `hmem` -/
theorem find_var_runtime_address {env : Env N} {T : Table N} {bF bV : Addr} (L : Loaded env T bF bV)
    (memV : Addr → Addr) (hmem : ∀ e ∈ T.syms, memV e.2 = e.2 + bV) (pre : List (Op N)) (n : N) (a : Addr) :
    resAfter env pre (.findVar n) = .ok a ↔
      ∃ p q va, T.syms = p ++ (n, va) :: q ∧ (∀ e ∈ p, e.1 ≠ n) ∧ a = memV va := by
  rw [findVar_eq L]
  exact answer_ok_iff (fun e he => (hmem e he).symm) .noVar a

/-- what the code does when the table loads but the anchor function is not in it (a vendored copy under
    another import path): no slide at all — every function is answered with its bare table address, every variable with
    its bare symbol value.  Correct exactly when the image is not relocated; the code cannot tell. -/
theorem no_anchor_zero_slide (env : Env N) (T : Table N) (h : load env.file = .ok T)
    (hno : lookup T.funcs env.anchorF = none) (pre : List (Op N)) (n : N) :
    resAfter env pre (.findFunc n) = resOf (funcIn (.ok T) n) 0 ∧
    resAfter env pre (.findVar n) = resOf (varIn (.ok T) n) 0 := by
  rw [resAfter_eq, resAfter_eq]
  simp only [spec, funcOf, varOf, fAlignOf, vAlignOf, h, funcIn, hno, and_self]

/-- `AllFunctions()` answers with a set of exactly the distinct function names of the table, after any history.
    Together with `history_independent` (where `AllFunctions` calls may occur anywhere in the history) this is: listing
    the functions — and whatever the caller then does to the listing it was handed, which is a fresh value the package
    keeps no reference to — never changes what a later lookup returns. -/
theorem all_functions_spec {env : Env N} {T : Table N} {bF bV : Addr} (L : Loaded env T bF bV) (pre : List (Op N)) :
    resAfter env pre .allFuncs = .set (T.funcs.map Prod.fst).eraseDups.length := by
  rw [resAfter_eq, spec, L.load_ok, allFuncsIn]

/-- the result of a call does not depend on what was looked up before it in the same process (the cached table,
    the cached error and the once-only alignments never change an answer) -/
theorem history_independent (env : Env N) (pre pre' : List (Op N)) (op : Op N) :
    resAfter env pre op = resAfter env pre' op := by
  rw [resAfter_eq, resAfter_eq]

/-- every result of a whole history is the result of that call in a fresh process: the per-call theorems above
    therefore hold for each element of every run -/
theorem run_pointwise (env : Env N) (ops : List (Op N)) :
    (run env {} ops).2 = ops.map (fun op => resAfter env [] op) := by
  rw [(run_spec ops (inv_init env)).2, ← funext (resAfter_eq env [])]

/-- **concurrent callers, interleavings of whole calls** (a call is atomic by the definition of `Sym.runSched`, so
    this is `run_pointwise` over every interleaving; a call overtaking another's initialisation is not modelled):
    whatever the goroutines are, whatever each of them calls and in whatever order the calls are scheduled (first lookups racing included), every call returns what it returns alone in a fresh process;
    so all per-call theorems hold for every call of every goroutine.  (Atomicity of a call with respect to the
    alignment state is `sync.Once`'s guarantee, see `Sym.runSched`; it is trusted, and observed by the concurrent
    lane of the check.) -/
theorem conc_any_schedule (env : Env N) (threads : List (List (Op N))) (sched : List Nat) :
    ∀ x ∈ runSched env {} threads sched, x.2 = resAfter env [] x.1 := by
  intro x hx
  rw [resAfter_eq]
  exact runSched_spec sched threads (inv_init env) x hx

section Examples

/-- a file with three functions (one name duplicated), two symbols, text at 0x401000 -/
def exFile : File String :=
  { elfOk := true, text := some 0x401000#64,
    pcln := some (some [("p.f", 0x0#64), ("u.FindFuncByName", 0x40#64), ("p.g", 0x80#64), ("p.f", 0xc0#64)]),
    symtab := some [("u.stubVar", 0x500000#64, true), ("p.c", 0x0#64, false), ("p.v", 0x500008#64, true), ("p.tls", 0x10#64, false)] }

/-- loaded with text bias 0x100 (as `-linkmode=external` does) and data bias 0xffff…f000 (wraps) -/
def exEnv : Env String :=
  { file := exFile, anchorF := "u.FindFuncByName", anchorV := "u.stubVar", memF := 0x401140#64, memV := 0x4ff000#64 }

def exTable : Table String :=
  { funcs := [("p.f", 0x401000#64), ("u.FindFuncByName", 0x401040#64), ("p.g", 0x401080#64), ("p.f", 0x4010c0#64)],
    syms := [("u.stubVar", 0x500000#64), ("p.v", 0x500008#64)] }

example : Loaded exEnv exTable 0x100#64 0xfffffffffffff000#64 :=
  ⟨rfl, ⟨0x401040#64, by decide +kernel, by decide +kernel⟩, Or.inr ⟨0x500000#64, by decide +kernel, by decide +kernel⟩⟩

-- found: table address + bias; first of the duplicates wins; variables use the data bias
example : (run exEnv {} [.expose "p.g", .findFunc "p.g", .findFunc "p.f", .findVar "p.v"]).2 =
    [.ok 0x401180#64, .ok 0x401180#64, .ok 0x401100#64, .ok 0x4ff008#64] := by decide +kernel
-- near-misses and prefixes are errors, never a neighbour's address
example : (run exEnv {} [.findFunc "p.", .findFunc "p.ff", .findFunc "P.f", .findFunc "", .findVar "p.f", .findVar "p.v "]).2 =
    [.err .noFunc, .err .noFunc, .err .noFunc, .err .noFunc, .err .noVar, .err .noVar] := by decide +kernel
-- position independent build: no `.gopclntab` section
example : (run { exEnv with file := { exFile with pcln := none } } {} [.findFunc "p.g", .findVar "p.v", .expose "p.g"]).2 =
    [.err .noPcln, .err .noPcln, .err .noPcln] := by decide +kernel
-- the executable file is gone
example : (run { exEnv with file := { exFile with openOk := false } } {} [.findFunc "p.g", .findVar "p.v", .expose "p.g"]).2 =
    [.err .open, .err .open, .err .open] := by decide +kernel
-- three goroutines racing on their first lookups, one of the schedules
-- (executed: g2 findVar p.v, g0 expose p.g, g1 findFunc p.f, g0 findVar p.v, g2 findFunc "p.")
example : (runSched exEnv {} [[.expose "p.g", .findVar "p.v"], [.findFunc "p.f"], [.findVar "p.v", .findFunc "p."]]
      [2, 0, 1, 1, 0, 2, 2]).map Prod.snd =
    [.ok 0x4ff008#64, .ok 0x401180#64, .ok 0x401100#64, .ok 0x4ff008#64, .err .noFunc] := by decide +kernel
-- listing the functions between lookups changes nothing (3 distinct names among 4 entries)
example : (run exEnv {} [.allFuncs, .findFunc "p.g", .allFuncs, .expose "p.f", .findVar "p.v", .allFuncs]).2 =
    [.set 3, .ok 0x401180#64, .set 3, .ok 0x401100#64, .ok 0x4ff008#64, .set 3] := by decide +kernel
-- symbol-table entries without an address (an undefined reference, a TLS offset) are not found
example : (run exEnv {} [.findVar "p.c", .findVar "p.tls", .findVar "p.v"]).2 = [.err .noVar, .err .noVar, .ok 0x4ff008#64] := by decide +kernel
-- the per-symbol loader hypothesis of `find_func_runtime_address` is satisfiable: everything mapped 0x100 higher
example : ∀ e ∈ exTable.funcs, (fun a : Addr => a + 0x100#64) e.2 = e.2 + 0x100#64 := fun _ _ => rfl
-- no anchor in the table: bare table addresses
example : (run { exEnv with anchorF := "elsewhere.FindFuncByName" } {} [.findFunc "p.g", .findVar "p.v"]).2 =
    [.ok 0x401080#64, .ok 0x500008#64] := by decide +kernel
-- stripped build
example : (run { exEnv with file := { exFile with symtab := none } } {} [.findFunc "p.g", .findVar "p.v"]).2 =
    [.ok 0x401180#64, .err .noVar] := by decide +kernel

end Examples

end C10
