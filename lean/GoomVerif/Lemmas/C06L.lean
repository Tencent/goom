import GoomVerif.Model.Method
namespace C06L
open Method

theorem split_last {α : Type} {c : α} {m m' : List α} (hm : c ∉ m) (hm' : c ∉ m') {a a' : List α}
    (h : a ++ c :: m = a' ++ c :: m') : a = a' ∧ m = m' := by
  induction a generalizing a' with
  | nil =>
    cases a' with
    | nil => exact ⟨rfl, (List.cons.inj h).2⟩
    | cons y t => exact absurd ((List.cons.inj h).2 ▸ List.mem_append_right t List.mem_cons_self) hm
  | cons x t ih =>
    cases a' with
    | nil => exact absurd ((List.cons.inj h).2 ▸ List.mem_append_right t List.mem_cons_self) hm'
    | cons y t' =>
      have ⟨hx, ht⟩ := List.cons.inj h
      exact ⟨by rw [hx, (ih ht).1], (ih ht).2⟩

theorem objName_assoc (pkg sn m : Str) : objName pkg sn m = (pkg ++ '.' :: sn) ++ '.' :: m :=
  (List.append_assoc pkg ('.' :: sn) ('.' :: m)).symm

theorem objName_inj {pkg pkg' sn sn' m m' : Str} (hs : '.' ∉ sn) (hs' : '.' ∉ sn') (hm : '.' ∉ m) (hm' : '.' ∉ m')
    (h : objName pkg sn m = objName pkg' sn' m') : pkg = pkg' ∧ sn = sn' ∧ m = m' := by
  rw [objName_assoc, objName_assoc] at h
  have ⟨h1, hm⟩ := split_last hm hm' h
  have ⟨hp, hs⟩ := split_last hs hs' h1
  exact ⟨hp, hs, hm⟩

/-- inside one package the receiver part may contain dots (type arguments of a generic instantiation) -/
theorem objName_inj_pkg {pkg sn sn' m m' : Str} (hm : '.' ∉ m) (hm' : '.' ∉ m')
    (h : objName pkg sn m = objName pkg sn' m') : sn = sn' ∧ m = m' :=
  split_last hm hm' (List.cons.inj (List.append_cancel_left h)).2

theorem recvName_nodot {T : Str} (p : Bool) (h : '.' ∉ T) : '.' ∉ recvName T p := by
  cases p <;> simp [recvName, h]

theorem recvName_inj {T T' : Str} {p p' : Bool} (hT : T.head? ≠ some '(') (hT' : T'.head? ≠ some '(')
    (h : recvName T p = recvName T' p') : T = T' ∧ p = p' := by
  cases p <;> cases p' <;> simp [recvName] at h
  · exact ⟨h, rfl⟩
  · subst h; simp at hT
  · subst h; simp at hT'
  · exact ⟨h, rfl⟩

theorem bracket_typeName {T : Str} (p : Bool) (h : '*' ∉ T) : bracket (typeName T p) = recvName T p := by
  cases p <;> simp [bracket, typeName, recvName, h]

theorem callSym_plain {e : Entry} (hg : e.shape = []) : e.callSym = linkName (symPrefix e.pkg) e.name e.ptr e.m := by
  simp [Entry.callSym, hg]

theorem symIndex_get {syms : List Str} {n : Str} {i : Nat} (h : symIndex syms n = some i) : syms[i]? = some n := by
  induction syms generalizing i with
  | nil => cases h
  | cons s rest ih =>
    rw [symIndex] at h
    split at h
    · next hs => cases h; exact congrArg some hs
    · obtain ⟨j, hj, rfl⟩ := Option.map_eq_some_iff.1 h
      exact ih hj

theorem symIndex_eq_none {syms : List Str} {n : Str} : symIndex syms n = none ↔ n ∉ syms := by
  induction syms with
  | nil => simp [symIndex]
  | cons s rest ih =>
    by_cases hs : s = n
    · simp [symIndex, hs]
    · simp [symIndex, hs, ih, Ne.symm hs]

theorem symIndex_of_mem {syms : List Str} {n : Str} (h : n ∈ syms) : ∃ i, symIndex syms n = some i :=
  Option.ne_none_iff_exists'.1 (fun hn => symIndex_eq_none.1 hn h)

theorem getOrCreate_inv {K V : Type} [DecidableEq K] (P : K → V → Prop) {k : K} {v : V} (hv : P k v)
    {c : List (K × V)} (hc : ∀ kv ∈ c, P kv.1 kv.2) :
    (∀ kv ∈ (getOrCreate c k v).1, P kv.1 kv.2) ∧ P k (getOrCreate c k v).2 := by
  induction c with
  | nil => exact ⟨fun kv h => List.mem_singleton.1 h ▸ hv, hv⟩
  | cons e rest ih =>
    have ⟨he, hr⟩ := List.forall_mem_cons.1 hc
    rw [getOrCreate]
    split
    · next hk => exact ⟨hc, hk ▸ he⟩
    · exact ⟨List.forall_mem_cons.2 ⟨he, (ih hr).1⟩, (ih hr).2⟩

theorem structs_get {c : List (Ty × Ty)} (h : ∀ kv ∈ c, kv.2 = kv.1) (t : Ty) :
    (∀ kv ∈ (getOrCreate c (structKey t) t).1, kv.2 = kv.1) ∧ (getOrCreate c (structKey t) t).2 = t :=
  getOrCreate_inv (fun k v => v = k) rfl h

theorem exports_get {c : List (EKey × (Str × Str))} (h : ∀ kv ∈ c, kv.2 = (kv.1.1, bracket kv.1.2)) (pkg raw : Str) :
    (∀ kv ∈ (getOrCreate c (pkg, raw) (pkg, bracket raw)).1, kv.2 = (kv.1.1, bracket kv.1.2)) ∧
      (getOrCreate c (pkg, raw) (pkg, bracket raw)).2 = (pkg, bracket raw) :=
  getOrCreate_inv (fun (k : EKey) (v : Str × Str) => v = (k.1, bracket k.2)) rfl h

theorem cacheInv_init : CacheInv BState.init := ⟨fun _ h => (nomatch h), fun _ h => (nomatch h)⟩

theorem behavOf_cons (syms : List Str) (i k : Nat) (p : List (Nat × Nat)) (e : Entry) :
    behavOf syms ((i, k) :: p) e = if syms[i]? = some e.callSym then some k else behavOf syms p e := rfl

theorem applyAt_inv {syms : List Str} {s : BState} {k : Nat} {name : Str} (hI : CacheInv s) :
    CacheInv (applyAt syms s k name).1 := by
  unfold applyAt
  split <;> exact hI

theorem applyAt_behav (syms : List Str) (s : BState) (k : Nat) (name : Str) (e : Entry) :
    behavOf syms (applyAt syms s k name).1.patched e =
      if name = e.callSym ∧ e.callSym ∈ syms then some k else behavOf syms s.patched e := by
  unfold applyAt
  cases h : symIndex syms name with
  | none =>
    have : ¬ (name = e.callSym ∧ e.callSym ∈ syms) := fun hc => symIndex_eq_none.1 h (hc.1 ▸ hc.2)
    exact (if_neg this).symm
  | some i =>
    have hg := symIndex_get h
    by_cases hn : name = e.callSym
    · simp [behavOf_cons, hg, hn, hn ▸ List.mem_of_getElem? hg]
    · simp [behavOf_cons, hg, hn]

/-- what a step does to a call of `e` is read off the step's own text (`stepName`), not off the caches -/
theorem step_spec (syms : List Str) (entries : List Entry) (s : BState) (k : Nat) (st : Step) (e : Entry)
    (hI : CacheInv s) :
    CacheInv (step syms entries s k st).1 ∧
    behavOf syms (step syms entries s k st).1.patched e =
      (if st.isReset then none
       else if stepName entries st = some e.callSym ∧ e.callSym ∈ syms then some k
       else behavOf syms s.patched e) := by
  cases st with
  | reset => exact ⟨hI, rfl⟩
  | structMethod t m =>
    have hc := structs_get hI.1 t
    simp only [step, stepName, Step.isReset, hc.2, Bool.false_eq_true, if_false]
    split
    · next hr => exact ⟨⟨hc.1, hI.2⟩, by simp only [hr, reduceCtorEq, false_and, if_false]⟩
    · next name hr =>
      exact ⟨applyAt_inv ⟨hc.1, hI.2⟩, by simp only [applyAt_behav, hr, Option.some.injEq]⟩
  | structExport t m =>
    have hc := structs_get hI.1 t
    simp only [step, stepName, Step.isReset, hc.2, Bool.false_eq_true, if_false, Option.some.injEq]
    exact ⟨applyAt_inv ⟨hc.1, hI.2⟩, applyAt_behav ..⟩
  | exportStruct pkg raw m =>
    have hc := exports_get hI.2 pkg raw
    simp only [step, stepName, Step.isReset, hc.2, Bool.false_eq_true, if_false, Option.some.injEq]
    exact ⟨applyAt_inv ⟨hI.1, hc.1⟩, applyAt_behav ..⟩

theorem one_step {syms : List Str} {entries : List Entry} {st : Step} {e e' : Entry}
    (hn : stepName entries st = some e.callSym) (hmem : e.callSym ∈ syms) (hne : e'.callSym ≠ e.callSym) :
    behavOf syms (run syms entries BState.init 0 [st]).1.patched e = some 0 ∧
    behavOf syms (run syms entries BState.init 0 [st]).1.patched e' = none := by
  have hr : st.isReset = false := by
    cases st with
    | reset => cases hn
    | _ => rfl
  have hs := fun x => (step_spec syms entries BState.init 0 st x cacheInv_init).2
  simp only [hr, hn, Bool.false_eq_true, if_false] at hs
  exact ⟨(hs e).trans (if_pos ⟨rfl, hmem⟩), (hs e').trans (if_neg fun h => hne (Option.some.inj h.1).symm)⟩

end C06L
