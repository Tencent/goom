import GoomVerif.Props.C12
/-! Known finding `stale-handle` (C12): the full statement `C12.RefinesAll` fails on the model of the CURRENT code, and the
    real code behaves like the model (the probe runs these histories on every check).

    `h0 := b.Func(fA); h0.Return(1); h0.Cancel(); h1 := b.Func(fA); h1.Return(3); h0.Return(2); b.Func(fA).Return(4)`:
    `h0` is cancelled and replaced in the builder's cache by `h1`.  `h0.Return(2)` builds a When on the stale mocker and
    installs ITS closure (mocker.go DefMocker.Return → whens → doApply).  The last instruction, `Return(4)` through the
    live cached mocker, finds `m.when != nil` and only extends h1's When, which is no longer installed: fA keeps
    returning 2.  Not an obligation. -/
namespace C12.Findings
open C12M

/-- the history of the header: after the last step the model (like the real code) answers 2, the reference 3 then 4 -/
theorem stale_handle_history :
    behRows (run fixed (initP .p0) [.keep 0 (.fn false), .on 0 (.stub (.ret 1)), .on 0 .cancel, .keep 1 (.fn false),
        .on 1 (.stub (.ret 3)), .on 0 (.stub (.ret 2)), .h (.fn false) (.stub (.ret 4))])
      ≠ Lww.run (Lww.initP .p0) [.keep 0 (.fn false), .on 0 (.stub (.ret 1)), .on 0 .cancel, .keep 1 (.fn false),
        .on 1 (.stub (.ret 3)), .on 0 (.stub (.ret 2)), .h (.fn false) (.stub (.ret 4))] := by
  decide +kernel

/-- the full statement of C12 does not hold -/
theorem stale_handle_breaks_lww : ¬ C12.RefinesAll := fun h => stale_handle_history (h .p0 _)

/-- a second shape: the live handle was never applied, so its Cancel removes nothing of what the stale handle installed -/
theorem stale_handle_cancel_history :
    behRows (run fixed (initP .p0) [.keep 0 (.xf .x), .on 0 (.stub (.ret 1)), .on 0 .cancel, .keep 1 (.xf .x),
        .on 0 (.stub (.ret 3)), .on 1 .cancel])
      ≠ Lww.run (Lww.initP .p0) [.keep 0 (.xf .x), .on 0 (.stub (.ret 1)), .on 0 .cancel, .keep 1 (.xf .x),
        .on 0 (.stub (.ret 3)), .on 1 .cancel] := by
  decide +kernel

/-- known finding `iface-cancel-one-method`: `If2.A.Return(1); If2.B.Return(2); If2.A.Cancel()` — Cancel through A's
    mocker is `ctx.Cancel()`, which restores the whole variable: B runs the original although its last instruction
    was Return(2) (the reference: B answers 2, A — having no mock of its own in a mocked variable — panics). -/
theorem iface_cancel_one_method_history :
    behRows (run fixed (initP .p0) [.h (.i2 false) (.stub (.ret 1)), .h (.i2 true) (.stub (.ret 2)), .h (.i2 false) .cancel])
      ≠ Lww.run (Lww.initP .p0) [.h (.i2 false) (.stub (.ret 1)), .h (.i2 true) (.stub (.ret 2)), .h (.i2 false) .cancel] := by
  decide +kernel

end C12.Findings
