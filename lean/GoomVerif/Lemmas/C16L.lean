import GoomVerif.Model.X86Dec
import GoomVerif.Lemmas.X86Cert
/-! Every result of `X86Dec.decode` is `GoodRes`, by an invariant of the table interpreter read off the
    per-pc certificate (`X86Dec.cert?`, checked at every pc in `Lemmas/X86Cert.lean`). -/
namespace C16L
open X86Dec Gen.X86

theorem fetch_ok {pc : Nat} {c : Cert} (hc : cert? pc = some c) : ∃ i, fetch pc = some i ∧ instrOK c i = true := by
  have hok := X86Cert.okAt_all pc
  unfold okAt at hok
  rw [hc] at hok
  dsimp only at hok
  split at hok
  · cases hok
  · exact ⟨_, ‹_›, hok⟩

theorem pushOpcode_op (s : St) (b : Nat) : (pushOpcode s b).op = s.op := by unfold pushOpcode; split <;> rfl
theorem pushOpcode_mod (s : St) (b : Nat) : (pushOpcode s b).mod_ = s.mod_ := by unfold pushOpcode; split <;> rfl
theorem eip_ne_rip : regEIP ≠ regRIP := by decide

theorem q_ite {α : Type} {Q : α → Prop} {cnd : Prop} [Decidable cnd] {a b : α} (h1 : cnd → Q a) (h2 : ¬cnd → Q b) :
    Q (if cnd then a else b) := by
  split
  · exact h1 ‹_›
  · exact h2 ‹_›

theorem q_dite {α : Type} {Q : α → Prop} {cnd : Prop} [Decidable cnd] {a : cnd → α} {b : ¬cnd → α} (h1 : ∀ h, Q (a h))
    (h2 : ∀ h, Q (b h)) : Q (if h : cnd then a h else b h) := by
  split
  · exact h1 _
  · exact h2 _

variable {n : Nat} {c : Cert} {s s' s0 : St} {next x : Nat} (src : Bytes) (P : Pfx)

structure GoodRes (n : Nat) (r : Res) : Prop where
  nopanic : r.err ≠ .panic
  nofuel : r.err ≠ .fuel
  len_le : r.len ≤ n
  len_pos : r.err = .ok → 1 ≤ r.len
  pcrel : r.pcrel ≠ 0 → (r.pcrel = 1 ∨ r.pcrel = 2 ∨ r.pcrel = 4) ∧ 1 ≤ r.pcreloff ∧ r.pcreloff + r.pcrel ≤ r.len
  opc : r.err = .ok → r.pcrel ≠ 0 → r.opcode ≠ 0
  /-- the prefix-only pseudo instruction (`instPrefix`: err = nil, Op = 0) is recognisable: Len = 1, no PC-relative field, Opcode = 0 -/
  op0 : r.err = .ok → r.op = 0 → r.len = 1 ∧ r.pcrel = 0 ∧ r.opcode = 0

theorem good_instPrefix (h : 0 < src.length) : GoodRes src.length (instPrefix src) := by
  unfold instPrefix
  rw [if_neg (by omega)]
  exact ⟨nofun, nofun, h, fun _ => Nat.le_refl 1, fun h => absurd rfl h, fun _ h => absurd rfl h, fun _ _ => ⟨rfl, rfl, rfl⟩⟩

theorem good_err {pos : Nat} {e : Err} (hok : e ≠ .ok) (hp : e ≠ .panic) (hf : e ≠ .fuel) (h : pos ≤ n) :
    GoodRes n { err := e, len := pos } :=
  ⟨hp, hf, h, fun h0 => absurd h0 hok, fun h => absurd rfl h, fun h0 => absurd h0 hok, fun h0 => absurd h0 hok⟩

theorem good_truncated : GoodRes src.length (truncated src) := by
  unfold truncated
  split
  · exact good_err nofun nofun nofun (Nat.zero_le _)
  · exact good_instPrefix src (by omega)

/-- The PC-relative bookkeeping of a decoder state, as a predicate of the fields it reads: an update of any other field
    leaves it as it is, by unfolding. -/
structure PcOK (base dlen doff rel reloff pos opc : Nat) (modrm : Bool) : Prop where
  rip : base = regRIP → dlen = 4 ∧ 1 ≤ doff ∧ doff + 4 ≤ pos
  /-- only ModR/M decoding makes the base RIP; `modrmHead`, which runs when `haveModrm` is still false, starts `MStage.notrip` from this -/
  nomodrm : modrm = false → base ≠ regRIP
  pcrel : rel ≠ 0 → (rel = 1 ∨ rel = 2 ∨ rel = 4) ∧ 1 ≤ reloff ∧ reloff + rel ≤ pos
  rip_nz : base = regRIP → opc ≠ 0
  pcrel_nz : rel ≠ 0 → opc ≠ 0

abbrev PcInv (s : St) : Prop := PcOK s.memBase s.displen s.dispoff s.pcrel s.pcreloff s.pos s.opcode s.haveModrm

theorem PcOK.mono {base dlen doff rel reloff pos opc pos' opc' : Nat} {modrm : Bool} (h : PcOK base dlen doff rel reloff pos opc modrm)
    (hp : pos ≤ pos') (ho : opc ≠ 0 → opc' ≠ 0) : PcOK base dlen doff rel reloff pos' opc' modrm :=
  ⟨fun hm => by have := h.rip hm; omega, h.nomodrm, fun hr => by have := h.pcrel hr; omega,
    fun hm => ho (h.rip_nz hm), fun hr => ho (h.pcrel_nz hr)⟩

/-- what the certificate `c` of a pc claims of the decoder state on arrival there -/
structure Inv (n : Nat) (c : Cert) (s : St) : Prop where
  narg : s.narg ≤ c.nargMax
  nargMax : c.nargMax ≤ len_args
  pos_le : s.pos ≤ n
  cons : c.cons = true → 1 ≤ s.pos
  immc : 0 < c.immcw → 1 ≤ s.immcpos ∧ s.immcpos + c.immcw ≤ s.pos
  pc : PcInv s
  /-- `inst.Opcode` is already non-zero, or at most `c.z - 1` bytes were shifted in so far: `osh8` starts at 32 and loses 8 per
      byte, so after `k` bytes `osh8 + 8 * k = 32`, and `k ≤ c.z - 1` reads `40 ≤ osh8 + 8 * c.z` -/
  opz : s.opcode ≠ 0 ∨ (1 ≤ c.z ∧ 40 ≤ s.osh8 + 8 * c.z)

structure BrkGood (n : Nat) (s : St) : Prop where
  pos_le : s.pos ≤ n
  pos_pos : s.op ≠ 0 → 1 ≤ s.pos
  pc : PcInv s

def StepGood (n : Nat) (c : Cert) : Step → Prop
  | .next pc' s' => ∃ c', cert? pc' = some c' ∧ c'.rank < c.rank ∧ Inv n c' s'
  | .brk s' => BrkGood n s'
  | .ret r => GoodRes n r

theorem edgeOK_elim {c : Cert} {dn rd : Nat} {cs pz : Bool} {np pc' : Nat} (h : edgeOK c dn rd cs pz np pc' = true) :
    ∃ c', cert? pc' = some c' ∧ c'.rank < c.rank ∧ c.nargMax + dn ≤ c'.nargMax ∧ c'.nargMax ≤ len_args ∧
      c'.immcw ≤ (if rd = 0 then c.immcw else rd) ∧ (c'.cons = true → c.cons = true ∨ cs = true) ∧ edgeZ c.z pz np ≤ c'.z := by
  unfold edgeOK at h
  split at h
  · cases h
  · rename_i c' hc'
    simp only [Bool.and_eq_true, decide_eq_true_eq, Bool.or_eq_true, Bool.not_eq_true'] at h
    refine ⟨c', hc', h.1.1.1.1.1, h.1.1.1.1.2, h.1.1.1.2, h.1.1.2, fun hc => ?_, h.2⟩
    rcases h.1.2 with (h2 | h2) | h2
    · rw [hc] at h2; cases h2
    · exact .inl h2
    · exact .inr h2

/-- how an edge may change `inst.Opcode` / `opshift`: never back to zero, at most `np` shifts, and if `pz` a non-zero byte is
    shifted in whenever there is room -/
structure OpRel (s s' : St) (pz : Bool) (np : Nat) : Prop where
  mono : s.opcode ≠ 0 → s'.opcode ≠ 0
  osh : s.osh8 ≤ s'.osh8 + 8 * np
  nz : pz = true → 8 ≤ s.osh8 → s'.opcode ≠ 0

theorem OpRel.same {np : Nat} (h1 : s'.opcode = s.opcode) (h2 : s'.osh8 = s.osh8) : OpRel s s' false np :=
  ⟨fun h => h1 ▸ h, by omega, nofun⟩

theorem edge_next {dn rd np pc' : Nat} {cs pz : Bool} (h : edgeOK c dn rd cs pz np pc' = true) (hi : Inv n c s)
    (hn : s'.narg = s.narg + dn) (hp : s.pos ≤ s'.pos) (hp' : s'.pos ≤ n) (hcs : cs = true → 1 ≤ s'.pos)
    (him : if rd = 0 then s'.immcpos = s.immcpos else (1 ≤ s'.immcpos ∧ s'.immcpos + rd ≤ s'.pos))
    (hpc : PcInv s') (hop : OpRel s s' pz np) : StepGood n c (.next pc' s') := by
  obtain ⟨c', hc', hr, hna, hnm, hiw, hco, hz⟩ := edgeOK_elim h
  refine ⟨c', hc', hr, ⟨by have := hi.narg; omega, hnm, hp', fun hc => ?_, fun hw => ?_, hpc, ?_⟩⟩
  · rcases hco hc with h1 | h1
    · have := hi.cons h1; omega
    · exact hcs h1
  · by_cases hrd : rd = 0
    · rw [if_pos hrd] at him hiw
      have := hi.immc (by omega)
      omega
    · rw [if_neg hrd] at him hiw
      omega
  · rcases hi.opz with h0 | ⟨h1, h2⟩
    · exact .inl (hop.mono h0)
    · have := hop.osh
      unfold edgeZ at hz
      rw [if_neg (by omega)] at hz
      split at hz
      · rename_i hpz
        simp only [Bool.and_eq_true, decide_eq_true_eq] at hpz
        exact .inl (hop.nz hpz.1 (by omega))
      · exact .inr (by omega)

theorem edge_narg {dn rd np pc' : Nat} {cs pz : Bool} (h : edgeOK c dn rd cs pz np pc' = true) (hi : Inv n c s) :
    s.narg + dn ≤ len_args := by
  obtain ⟨c', _, _, hna, hnm, _⟩ := edgeOK_elim h
  have := hi.narg
  omega

theorem edge_same (h : edgeOK c 0 0 false false 0 next = true) (hi : Inv n c s) : StepGood n c (.next next s) :=
  edge_next h hi rfl (Nat.le_refl _) hi.pos_le nofun rfl hi.pc (.same rfl rfl)

theorem entry_cert : ∃ c, cert? 1 = some c ∧ c.rank < fuel0 ∧ c.nargMax ≤ len_args ∧ c.immcw = 0 ∧ c.cons = false ∧ 1 ≤ c.z := by
  have h : (cert? 1).any (fun c => decide (c.rank < fuel0 ∧ c.nargMax ≤ len_args ∧ c.immcw = 0 ∧ c.cons = false ∧ 1 ≤ c.z)) = true := by
    decide +kernel
  simpa [Option.any_eq_true] using h

-- `regOf`: elaborating a term of type `StepGood _ _ (match regOf x with …)` would otherwise evaluate the array `baseReg`
attribute [local irreducible] cert? certWord tbl? regOf

theorem brk_fail (hi : Inv n c s) : BrkGood n { s with op := 0 } :=
  ⟨hi.pos_le, fun h => absurd rfl h, hi.pc⟩

theorem or_shl_ne_zero {a b k : Nat} (h : a ≠ 0 ∨ b ≠ 0) : a ||| b <<< k ≠ 0 := by
  intro h0
  obtain ⟨ha, hb⟩ := Nat.or_eq_zero_iff.mp h0
  rw [Nat.shiftLeft_eq] at hb
  have := Nat.two_pow_pos k
  rcases h with h | h
  · exact h ha
  · exact h ((Nat.mul_eq_zero.mp hb).resolve_right (by omega))

theorem pushOpcode_eq (s : St) (b : Nat) : ∃ o h, pushOpcode s b = { s with opcode := o, osh8 := h } ∧ (s.opcode ≠ 0 → o ≠ 0) ∧
    s.osh8 ≤ h + 8 ∧ (b ≠ 0 → 8 ≤ s.osh8 → o ≠ 0) := by
  unfold pushOpcode
  split
  · exact ⟨_, _, rfl, fun h => or_shl_ne_zero (.inl h), by omega, fun h _ => or_shl_ne_zero (.inr h)⟩
  · exact ⟨_, _, rfl, id, by omega, fun _ h => by omega⟩

theorem putArg_good {r : Nat} (he : edgeOK c 1 0 false false 0 next = true) (hi : Inv n c s) : StepGood n c (putArg s r next) := by
  unfold putArg
  rw [if_pos (show s.narg < len_args from edge_narg he hi)]
  exact edge_next he hi rfl (Nat.le_refl _) hi.pos_le nofun rfl hi.pc (.same rfl rfl)

theorem Inv.setPCRel (hi : Inv n c s) : Inv n c (setPCRelIfRip s) := by
  unfold setPCRelIfRip
  split
  · rename_i hm
    have := hi.pc.rip hm
    have hrel : (s.displen = 1 ∨ s.displen = 2 ∨ s.displen = 4) ∧ 1 ≤ s.dispoff ∧ s.dispoff + s.displen ≤ s.pos := by omega
    exact { hi with pc := ⟨hi.pc.rip, hi.pc.nomodrm, fun _ => hrel, hi.pc.rip_nz, fun _ => hi.pc.rip_nz hm⟩ }
  · exact hi

theorem putMem_good (he : edgeOK c 1 0 false false 0 next = true) (hx : x < len_memBytes) (hi : Inv n c s) :
    StepGood n c (putMem s x next) := by
  unfold putMem
  rw [if_pos (show s.narg < len_args from edge_narg he hi), if_pos hx]
  exact putArg_good he hi.setPCRel

theorem readImm_good {k : Nat} (hk : 1 ≤ k) (he : edgeOK c 0 0 true false 0 next = true) (hi : Inv src.length c s) :
    StepGood src.length c (readImm src s k next) := by
  unfold readImm
  refine q_ite (fun _ => good_truncated src) fun _ => ?_
  exact edge_next he hi rfl (Nat.le_add_right _ _) (by show s.pos + k ≤ _; omega) (fun _ => by show 1 ≤ s.pos + k; omega) rfl
    (hi.pc.mono (Nat.le_add_right _ _) id) (.same rfl rfl)

/-- a code offset of `k ≥ w` bytes, where `w` is the width the certificate records for it -/
theorem readImmc_good {k w : Nat} (hw : 1 ≤ w) (hk : w ≤ k) (hc : c.cons = true) (he : edgeOK c 0 w true false 0 next = true)
    (hi : Inv src.length c s) : StepGood src.length c (readImmc src s k next) := by
  have := hi.cons hc
  unfold readImmc
  refine q_ite (fun _ => good_truncated src) fun _ => ?_
  refine edge_next he hi rfl (Nat.le_add_right _ _) (by show s.pos + k ≤ _; omega) (fun _ => by show 1 ≤ s.pos + k; omega) ?_
    (hi.pc.mono (Nat.le_add_right _ _) id) (.same rfl rfl)
  rw [if_neg (by omega)]
  show 1 ≤ s.pos ∧ s.pos + w ≤ s.pos + k
  omega

def ExGood {α : Type} (n : Nat) (Q : α → Prop) : Except Res α → Prop
  | .error r => GoodRes n r
  | .ok a => Q a

theorem ExGood.ok {α : Type} {Q : α → Prop} {a : α} (h : Q a) : ExGood n Q (.ok a) := h

theorem ExGood.andThen {Q R : St → Prop} {y : Except Res St} {f : St → Except Res St} (hy : ExGood n Q y)
    (hf : ∀ a, Q a → ExGood n R (f a)) :
    ExGood n R (match (generalizing := false) y with | .error r => .error r | .ok a => f a) := by
  cases y with
  | error r => exact hy
  | ok a => exact hf a hy

/-- facts relating the state before ModR/M decoding (`s0`) to a state during / after it; `k` = bytes shifted into Opcode so far -/
structure MStage (n k : Nat) (s0 s : St) : Prop where
  narg : s.narg = s0.narg
  immcpos : s.immcpos = s0.immcpos
  pcrel : s.pcrel = s0.pcrel
  pcreloff : s.pcreloff = s0.pcreloff
  pos_ge : s0.pos + 1 ≤ s.pos
  pos_le : s.pos ≤ n
  have_ : s.haveModrm = true
  notrip : s.memBase ≠ regRIP
  rm_lt : s.rm < 16
  mono : s0.opcode ≠ 0 → s.opcode ≠ 0
  osh : s0.osh8 ≤ s.osh8 + 8 * k
  rm_nz : s.rm &&& 7 ≠ 0 → s.opcode ≠ 0

def Disp (s0 s : St) : Prop :=
  s.mod_ = 0 ∧ s.rm &&& 7 = 5 → s.displen = 4 ∧ s0.pos + 1 ≤ s.dispoff ∧ s.dispoff + 4 ≤ s.pos

theorem base_ne_rip (am : Sz) {r : Nat} (h : r < 16) : (baseRegFor am + r) % 256 ≠ regRIP := by
  cases am <;> simp only [baseRegFor, regAX, regEAX, regRAX, regRIP] <;> omega

theorem and7_lt (a : Nat) : a &&& 7 < 16 := Nat.lt_of_le_of_lt Nat.and_le_right (by decide)

theorem or8_and7 (a : Nat) : (a ||| 8) &&& 7 = a &&& 7 := by rw [Nat.and_or_distrib_right]; exact Nat.or_zero _

theorem and7_and7_ne {m : Nat} (h : (m &&& 7) &&& 7 ≠ 0) : m ≠ 0 := fun h0 => h (by subst h0; rfl)

/-- REX.B / VEX.B extension of a 3-bit or already extended register number -/
theorem ext_lt {cnd : Prop} [Decidable cnd] {a : Nat} (h : a < 16) : (if cnd then a ||| 8 else a) < 16 :=
  q_ite (Q := (· < 16)) (fun _ => Nat.or_lt_two_pow (n := 4) h (by decide)) (fun _ => h)

theorem modrmHead_good (hi : Inv src.length c s0) (hz : s0.opcode ≠ 0 ∨ 8 ≤ s0.osh8) :
    ExGood src.length (MStage src.length 1 s0) (modrmHead src P s0) := by
  unfold modrmHead
  refine q_ite (fun _ => good_err nofun nofun nofun hi.pos_le) fun hm => q_dite (fun hlt => ?_) fun _ => good_truncated src
  obtain ⟨o, h, e, hmono, hosh, hnz⟩ :=
    pushOpcode_eq { s0 with haveModrm := true, modrm := (src[s0.pos]).toNat, pos := s0.pos + 1 } (src[s0.pos]).toNat
  dsimp only
  rw [e]
  -- `rm ≠ 0` makes the ModR/M byte non-zero, and by `hz` it is recorded unless Opcode is non-zero already
  exact .ok ⟨rfl, rfl, rfl, rfl, Nat.le_refl _, hlt, rfl, hi.pc.nomodrm (by simpa using hm), and7_lt _, hmono, hosh,
    fun hrm => hz.elim hmono (hnz (and7_and7_ne hrm))⟩

theorem modrmSib_good (hs : MStage src.length 1 s0 s) : ExGood src.length (MStage src.length 2 s0) (modrmSib src P s) := by
  have hs2 : MStage src.length 2 s0 s := { hs with osh := by have := hs.osh; omega }
  unfold modrmSib
  refine q_ite (fun _ => q_dite (fun hlt => ?_) fun _ => good_truncated src) fun _ => ?_
  · obtain ⟨o, h, e, hmono, hosh, -⟩ := pushOpcode_eq { s with pos := s.pos + 1, haveSIB := true } (src[s.pos]).toNat
    dsimp only
    rw [e]
    have hst : MStage src.length 2 s0 { s with pos := s.pos + 1, haveSIB := true, opcode := o, osh8 := h } :=
      { hs with pos_ge := Nat.le_succ_of_le hs.pos_ge, pos_le := hlt, mono := fun h0 => hmono (hs.mono h0),
                osh := by have := hs.osh; have : s.osh8 ≤ h + 8 := hosh; show s0.osh8 ≤ h + 8 * 2; omega,
                rm_nz := fun h0 => hmono (hs.rm_nz h0) }
    exact q_ite (fun _ => .ok { hst with }) fun _ => .ok { hst with notrip := base_ne_rip _ (ext_lt (and7_lt _)) }
  · dsimp only
    have hrm : (if P.rex &&& 1 ≠ 0 then s.rm ||| 8 else s.rm) < 16 := ext_lt hs.rm_lt
    have hnz : (if P.rex &&& 1 ≠ 0 then s.rm ||| 8 else s.rm) &&& 7 ≠ 0 → s.opcode ≠ 0 :=
      q_ite (Q := fun r => r &&& 7 ≠ 0 → s.opcode ≠ 0) (fun _ => or8_and7 s.rm ▸ hs.rm_nz) fun _ => hs.rm_nz
    have hs3 : MStage src.length 2 s0 { s with rm := if P.rex &&& 1 ≠ 0 then s.rm ||| 8 else s.rm } :=
      { hs2 with rm_lt := hrm, rm_nz := hnz }
    exact q_ite (fun _ => .ok hs3) fun _ => q_ite (fun _ => .ok { hs3 with notrip := base_ne_rip _ hrm }) fun _ => .ok hs3

theorem modrmDisp32_good (hs : MStage src.length 2 s0 s) :
    ExGood src.length (fun s' => MStage src.length 2 s0 s' ∧ Disp s0 s') (modrmDisp32 src s) := by
  have := hs.pos_ge
  unfold modrmDisp32
  refine q_ite (fun _ => q_ite (fun _ => good_truncated src) fun (hle : ¬ s.pos + 4 > src.length) => ?_) fun hc =>
    .ok ⟨hs, fun hd => absurd (.inl ⟨hd.1, .inl hd.2⟩) hc⟩
  exact .ok ⟨{ hs with pos_ge := by show s0.pos + 1 ≤ s.pos + 4; omega, pos_le := by show s.pos + 4 ≤ _; omega },
    fun _ => ⟨rfl, hs.pos_ge, Nat.le_refl _⟩⟩

theorem modrmDisp8_good (hs : MStage src.length 2 s0 s) (hd : Disp s0 s) :
    ExGood src.length (fun s' => MStage src.length 2 s0 s' ∧ Disp s0 s') (modrmDisp8 src s) := by
  have := hs.pos_ge
  unfold modrmDisp8
  refine q_ite (fun (h1 : s.mod_ = 1) => q_ite (fun _ => good_truncated src) fun (hle : ¬ s.pos ≥ src.length) => ?_) fun _ => .ok ⟨hs, hd⟩
  exact .ok ⟨{ hs with pos_ge := by show s0.pos + 1 ≤ s.pos + 1; omega, pos_le := by show s.pos + 1 ≤ _; omega },
    fun h0 => absurd (h0.1.symm.trans h1) nofun⟩

/-- mod = 0, rm = 5 makes the base EIP or RIP: the disp32 was read, and the ModR/M byte (rm ≠ 0) is in Opcode -/
theorem modrmRip_good (hi : Inv n c s0) (hs : MStage n 2 s0 s) (hd : Disp s0 s) (he : edgeOK c 0 0 true false 2 next = true) :
    StepGood n c (.next next (modrmRip P s)) := by
  have hpos := hs.pos_ge
  have hrel : s.pcrel ≠ 0 → (s.pcrel = 1 ∨ s.pcrel = 2 ∨ s.pcrel = 4) ∧ 1 ≤ s.pcreloff ∧ s.pcreloff + s.pcrel ≤ s.pos := by
    rw [hs.pcrel, hs.pcreloff]
    intro hne
    have := hi.pc.pcrel hne
    omega
  have go : ∀ b, (b = regRIP → s.displen = 4 ∧ 1 ≤ s.dispoff ∧ s.dispoff + 4 ≤ s.pos) → (b = regRIP → s.opcode ≠ 0) →
      StepGood n c (.next next { s with memBase := b }) := fun b h1 h2 =>
    edge_next he hi hs.narg (by show s0.pos ≤ s.pos; omega) hs.pos_le (fun _ => by show 1 ≤ s.pos; omega) hs.immcpos
      ⟨h1, fun hf => absurd (hs.have_.symm.trans hf) nofun, hrel, h2, fun h => hs.mono (hi.pc.pcrel_nz (hs.pcrel ▸ h))⟩
      ⟨hs.mono, hs.osh, nofun⟩
  unfold modrmRip
  refine q_ite (Q := fun t => StepGood n c (.next next t)) (fun hc => ?_) fun _ =>
    go s.memBase (fun h => absurd h hs.notrip) fun h => absurd h hs.notrip
  have := hd hc
  exact go _ (fun _ => by omega) fun _ => hs.rm_nz (by rw [hc.2]; decide)

theorem readModrm_good (hi : Inv src.length c s0) (hz : s0.opcode ≠ 0 ∨ 8 ≤ s0.osh8) :
    ExGood src.length (fun s => ∀ next, edgeOK c 0 0 true false 2 next = true → StepGood src.length c (.next next s))
      (readModrm src P s0) := by
  unfold readModrm
  refine (modrmHead_good src P hi hz).andThen fun _ h1 => ?_
  refine (modrmSib_good src P h1).andThen fun _ h2 => ?_
  refine (modrmDisp32_good src h2).andThen fun _ h3 => ?_
  refine (modrmDisp8_good src h3.1 h3.2).andThen fun _ h4 => ?_
  exact .ok fun _ => modrmRip_good P hi h4.1 h4.2

/-- a table instruction that reads ModR/M (`xCondSlashR`, `xReadSlashR`): `f` has to take an edge of that effect.  The certificate
    requires `c.z ≤ 4` there: the ModR/M byte will be recorded, or Opcode ≠ 0 already. -/
theorem slashR_good (hi : Inv src.length c s) (hz : c.z ≤ 4) (f : St → Step)
    (hf : ∀ s1, (∀ next, edgeOK c 0 0 true false 2 next = true → StepGood src.length c (.next next s1)) → StepGood src.length c (f s1)) :
    StepGood src.length c (match (generalizing := false) readModrm src P s with | .error r => .ret r | .ok s1 => f s1) := by
  have hm := readModrm_good src P hi (hi.opz.imp id fun h => by omega)
  generalize readModrm src P s = y at hm ⊢
  cases y with
  | error r => exact hm
  | ok s1 => exact hf s1 hm

structure PlainOK (c : Cert) (e : Eff) (next : Nat) : Prop where
  cons : e.needCons = true → c.cons = true
  immcw : e.needImmcw ≤ c.immcw
  static : e.static = true
  z : c.z ≤ e.needZ
  edge : edgeOK c e.dn e.rd e.cs false e.np next = true

theorem plainOK_elim (h : plainOK c x next = true) : ∃ e, plainEff x = some e ∧ PlainOK c e next := by
  unfold plainOK at h
  split at h
  · cases h
  · rename_i e he
    simp only [Bool.and_eq_true, Bool.or_eq_true, Bool.not_eq_true', decide_eq_true_eq] at h
    exact ⟨e, he, fun hn => h.1.1.1.1.resolve_left (by rw [hn]; nofun), h.1.1.1.2, h.1.1.2, h.1.2, h.2⟩

/-- used with `x` a constant `y`: `he` is then `rfl` -/
theorem plainOK_at {y : Nat} {e : Eff} (h : plainOK c x next = true) (hx : x = y) (he : plainEff y = some e) : PlainOK c e next := by
  obtain ⟨e', he', H⟩ := plainOK_elim h
  cases (hx ▸ he).symm.trans he'
  exact H

theorem rip_ne_zero : (0 : Nat) ≠ regRIP := by decide

theorem Inv.memBase0 (hi : Inv n c s) : Inv n c { s with memBase := 0 } :=
  { hi with pc := ⟨fun h => absurd h rip_ne_zero, fun _ => rip_ne_zero, hi.pc.pcrel, fun h => absurd h rip_ne_zero, hi.pc.pcrel_nz⟩ }

/-- `xArgRel8/16/32`: the field is the code offset read last, and the certificate guarantees `inst.Opcode ≠ 0` here -/
theorem Inv.rel (hi : Inv n c s) {k : Nat} (hk : k = 1 ∨ k = 2 ∨ k = 4) (hw : k ≤ c.immcw) (hz : c.z ≤ 0) :
    Inv n c { s with pcreloff := s.immcpos, pcrel := k } := by
  have := hi.immc (by omega)
  exact { hi with pc := ⟨hi.pc.rip, hi.pc.nomodrm, fun _ => ⟨hk, this.1, by show s.immcpos + k ≤ s.pos; omega⟩, hi.pc.rip_nz,
    fun _ => hi.opz.elim id fun h => by omega⟩ }

/-- `stepPlain` on every bytecode but `xReadSlashR`.  The reads and the far pointers are constants, so `plainEff` computes;
    every other bytecode that `plainOK` accepts writes one argument (`isOneArg`), and the tests of `stepPlain` on the way to its
    branch are those that select the index conditions in `Eff.static`. -/
theorem stepPlain_good (hok : plainOK c x next = true) (hi : Inv src.length c s) (hslash : x ≠ xReadSlashR) :
    StepGood src.length c (stepPlain src P x next s) := by
  have rI : ∀ {y k : Nat}, x = y → plainEff y = some { cs := true } → 1 ≤ k → StepGood src.length c (readImm src s k next) :=
    fun hx he hk => readImm_good src hk (plainOK_at hok hx he).edge hi
  have rC : ∀ {y k w : Nat}, x = y → plainEff y = some { rd := w, cs := true, needCons := true } → 1 ≤ w → w ≤ k →
      StepGood src.length c (readImmc src s k next) := fun hx he hw hk =>
    have H := plainOK_at hok hx he
    readImmc_good src hw hk (H.cons rfl) H.edge hi
  unfold stepPlain
  rw [if_neg hslash]
  -- one `q_ite` per test of `stepPlain`, in its order
  refine
    q_ite (fun hx => rI hx rfl (by decide)) fun h1 =>                          -- xReadIb
    q_ite (fun hx => rI hx rfl (by decide)) fun h2 =>                          -- xReadIw
    q_ite (fun hx => rI hx rfl (by decide)) fun h3 =>                          -- xReadID
    q_ite (fun hx => rI hx rfl (by decide)) fun h4 =>                          -- xReadIo
    q_ite (fun hx => rC hx rfl (by decide) (by decide)) fun h5 =>              -- xReadCb
    q_ite (fun hx => rC hx rfl (by decide) (by decide)) fun h6 =>              -- xReadCw
    -- xReadCm: the certificate counts on 4 bytes, 8 are read in 64-bit address mode
    q_ite (fun hx => q_ite (Q := fun k => StepGood _ c (readImmc src s k next)) (fun _ => rC hx rfl (by decide) (by decide))
      fun _ => rC hx rfl (by decide) (by decide)) fun h7 =>
    q_ite (fun hx => rC hx rfl (by decide) (by decide)) fun h8 =>              -- xReadCd
    q_ite (fun hx => rC hx rfl (by decide) (by decide)) fun h9 => ?_           -- xReadCp
  by_cases hptr : x = xArgPtr16colon16 ∨ x = xArgPtr16colon32
  · have H : PlainOK c { dn := 2 } next := hptr.elim (plainOK_at hok · rfl) (plainOK_at hok · rfl)
    have hnot : x ∉ fixedOps ∧ x ∉ immOps ∧ x ∉ memOps := by rcases hptr with rfl | rfl <;> decide
    rw [if_neg hnot.1, if_neg hnot.2.1, if_neg hnot.2.2, if_pos hptr, if_pos (show s.narg + 1 < len_args from edge_narg H.edge hi)]
    exact edge_next H.edge hi rfl (Nat.le_refl _) hi.pos_le nofun rfl hi.pc (.same rfl rfl)
  -- what is left of `plainEff x` is its last case
  obtain ⟨e, he, H⟩ := plainOK_elim hok
  have hI : ¬ isReadI x = true := by simp [isReadI, h1, h2, h3, h4]
  have hC : ¬ readCWidth x ≠ 0 := by simp [readCWidth, h5, h6, h7, h8, h9]
  unfold plainEff at he
  rw [if_neg hslash, if_neg hI, if_neg hC, if_neg hptr] at he
  split at he
  case isFalse => cases he
  cases he
  have hst := H.static
  simp only [Bool.and_eq_true] at hst
  have A : ∀ {s' : St} {r : Nat}, Inv src.length c s' → StepGood src.length c (putArg s' r next) := putArg_good H.edge
  have M : x ∈ memOps ∨ x ∈ moffsOps ∨ x ∈ rmOps → ∀ {s' : St}, Inv src.length c s' → StepGood src.length c (putMem s' x next) :=
    fun hx _ h => putMem_good H.edge (by simpa [hx] using hst.1.2) h
  have R : x = xArgYmm1 ∨ x ∈ regopOps ∨ x ∈ mmOps ∨ x ∈ rmfOps ∨ x ∈ opregOps ∨ x ∈ rmOps ∨ x = xArgMm2 ∨ x = xArgXmm2 →
      ∀ f : Nat → Nat, StepGood src.length c (match regOf x with | some base => putArg s (f base) next | none => .ret panicRes) :=
    fun hx f => by
      have : x < baseReg.size := by simpa [hx] using hst.2
      unfold regOf
      rw [Array.getElem?_eq_getElem this]
      exact A hi
  have hfix : x ∈ fixedOps → StepGood src.length c (match fixedArg[x]? with | some r => putArg s r next | none => .ret panicRes) :=
    fun hx => by
      have : x < fixedArg.size := by simpa [hx] using hst.1.1
      rw [Array.getElem?_eq_getElem this]
      exact A hi
  have himm := H.immcw
  have hz := H.z
  refine
    q_ite hfix fun _ =>                                                                            -- fixedOps
    q_ite (fun _ => A hi) fun _ =>                                                                 -- immOps
    q_ite (fun hx => q_ite (fun _ => brk_fail hi) fun _ => M (.inl hx) hi) fun _ =>                -- memOps
    q_ite (fun hx => absurd hx hptr) fun _ =>                                                      -- far pointers
    q_ite (fun hx => M (.inr (.inl hx)) hi.memBase0) fun _ =>                                      -- moffsOps
    q_ite (fun hx => R (by simp [hx]) _) fun _ =>                                                  -- xArgYmm1
    q_ite (fun hx => R (by simp [hx]) _) fun _ =>                                                  -- regopOps
    q_ite (fun hx => R (by simp [hx]) _) fun _ => ?_                                               -- mmOps
  refine
    q_ite (fun _ => A (q_ite (Q := Inv _ c) (fun _ => { hi with }) fun _ => hi)) fun _ =>          -- xArgCR0dashCR7
    q_ite (fun _ => q_ite (fun _ => brk_fail { hi with }) fun _ => A { hi with }) fun _ =>          -- xArgSreg
    q_ite (fun hx => R (by simp [hx]) _) fun _ =>                                                  -- rmfOps
    q_ite (fun hx => R (by simp [hx]) _) fun _ =>                                                  -- opregOps
    q_ite (fun hx => q_ite (fun _ => M (.inr (.inr hx)) hi) fun _ => R (by simp [hx]) _) fun _ =>  -- rmOps
    q_ite (fun hx => q_ite (fun _ => brk_fail hi) fun _ => R (by simp [hx]) _) fun _ =>            -- xArgMm2
    q_ite (fun hx => q_ite (fun _ => brk_fail hi) fun _ => R (by simp [hx]) _) fun _ => ?_         -- xArgXmm2
  exact
    q_ite (fun hx => A (hi.rel (.inl rfl) (by simpa only [if_pos hx] using himm) (by simpa [hx] using hz))) fun h8 =>   -- xArgRel8
    q_ite (fun hx => A (hi.rel (.inr (.inl rfl)) (by simpa only [if_neg h8, if_pos hx] using himm) (by simpa [hx] using hz))) fun h16 =>
    q_ite (fun hx => A (hi.rel (.inr (.inr rfl)) (by simpa only [if_neg h8, if_neg h16, if_pos hx] using himm) (by simpa [hx] using hz)))
      fun _ => good_err nofun nofun nofun hi.pos_le

theorem condPrefixLoop_good (ents : List (Nat × Nat)) (h : ents.all (fun e => edgeOK c 0 0 false false 0 e.2) = true)
    (hi : Inv n c s) : StepGood n c (condPrefixLoop P ents s) := by
  induction ents with
  | nil => exact brk_fail hi
  | cons e rest ih =>
    obtain ⟨p, t⟩ := e
    simp only [List.all_cons, Bool.and_eq_true] at h
    have ih := ih h.2
    have ht : StepGood n c (.next t s) := edge_same h.1 hi
    have ht' : StepGood n c (.next t { s with repImplicit := true }) := edge_same h.1 { hi with }
    have hb : StepGood n c (.brk { s with op := 0 }) := brk_fail hi
    unfold condPrefixLoop
    -- every leaf of the nest of tests on `p` is one of these four
    repeat' (first | exact ht | exact ht' | exact ih | exact hb | refine q_ite (fun _ => ?_) (fun _ => ?_) | dsimp only)

theorem sz_good {a b d : Nat} (ha : edgeOK c 0 0 false false 0 a = true) (hb : edgeOK c 0 0 false false 0 b = true)
    (hd : edgeOK c 0 0 false false 0 d = true) (hi : Inv n c s) (z : Sz) :
    StepGood n c (.next (match z with | .s16 => a | .s32 => b | .s64 => d) s) := by
  cases z
  · exact edge_same ha hi
  · exact edge_same hb hi
  · exact edge_same hd hi

theorem step_good (i : Instr) (hok : instrOK c i = true) (hi : Inv src.length c s) : StepGood src.length c (step src P i s) := by
  cases i <;> simp only [instrOK, Bool.and_eq_true, decide_eq_true_eq] at hok
  case fail => exact brk_fail hi
  case match_ => exact ⟨hi.pos_le, fun _ => hi.cons hok, hi.pc⟩
  case jump t => exact edge_same hok hi
  case condByte ents fall ff =>
    unfold step
    dsimp only
    refine q_dite (fun hlt => ?_) fun _ => good_truncated src
    split
    · -- an entry for the byte: it goes into Opcode, and is non-zero if the entry's key is
      rename_i e hf
      obtain ⟨o, h, eq, hmono, hosh, hnz⟩ := pushOpcode_eq { s with pos := s.pos + 1 } (src[s.pos]).toNat
      rw [eq]
      have hb : e.1 % 256 = (src[s.pos]).toNat := by simpa using List.find?_some hf
      exact edge_next (List.all_eq_true.mp hok.1 e (List.mem_of_find?_eq_some hf)) hi rfl (Nat.le_succ _) hlt (fun _ => Nat.le_add_left 1 _) rfl
        (hi.pc.mono (Nat.le_succ _) hmono) ⟨hmono, hosh, fun hpz => hnz (by rw [← hb]; simpa using hpz)⟩
    · refine q_ite (Q := fun s' => StepGood _ c (.next fall s')) (fun _ => ?_) (fun _ => edge_same hok.2 hi)
      exact edge_next hok.2 hi rfl (Nat.le_succ _) hlt nofun rfl (hi.pc.mono (Nat.le_succ _) id) (.same rfl rfl)
  case condIs64 t => exact edge_same hok hi
  case condIsMem tReg tMem =>
    have ht : ∀ b : Prop, [Decidable b] → StepGood src.length c (.next (if b then tMem else tReg) s) := fun b _ =>
      q_ite (Q := fun t => StepGood _ c (.next t s)) (fun _ => edge_same hok.2 hi) (fun _ => edge_same hok.1.2 hi)
    unfold step
    dsimp only
    refine q_ite (fun _ => ht _) fun _ => q_dite (fun _ => ht _) fun _ => ?_
    have := hi.cons hok.1.1
    exact good_instPrefix src (by have := hi.pos_le; omega)
  case condDataSize a b d => exact sz_good hok.1.1 hok.1.2 hok.2 hi P.dm
  case condAddrSize a b d => exact sz_good hok.1.1 hok.1.2 hok.2 hi P.am
  case condPrefix ents => exact condPrefixLoop_good P ents hok hi
  case condSlashR ts =>
    refine slashR_good src P hi hok.1.1 _ fun s1 hm => ?_
    have hlt : s1.regop &&& 7 < ts.length := by have : s1.regop &&& 7 ≤ 7 := Nat.and_le_right; omega
    rw [List.getElem?_eq_getElem hlt]
    exact hm _ (List.all_eq_true.mp hok.2 _ (List.getElem_mem hlt))
  case setOp op next => exact edge_same hok { hi with }
  case plain x next =>
    unfold step
    dsimp only
    refine q_ite (fun hx => ?_) fun hx => stepPlain_good src P hok hi hx
    have H := plainOK_at hok hx rfl
    exact hx ▸ slashR_good src P hi H.z _ fun s1 hm => hm _ H.edge
  case bad => cases hok

theorem finish_good (hb : BrkGood src.length s) (hp : P.nprefix > 0 → 0 < src.length) : GoodRes src.length (finish src P s) := by
  unfold finish
  refine q_ite (fun _ => q_ite (fun h => good_instPrefix src (hp h)) fun _ => good_err nofun nofun nofun hb.pos_le) fun hop => ?_
  refine ⟨nofun, nofun, hb.pos_le, fun _ => hb.pos_pos hop, hb.pc.pcrel, fun _ => hb.pc.pcrel_nz, fun _ h0 => absurd h0 ?_⟩
  -- the reported Op is `s.op`, NOP or PAUSE
  dsimp only
  have hnop : opNOP ≠ 0 := by decide
  have hpause : opPAUSE ≠ 0 := by decide
  repeat' (first | exact hop | exact hnop | exact hpause | refine q_ite (Q := fun v => v ≠ 0) (fun _ => ?_) (fun _ => ?_))

theorem run_good (hp : P.nprefix > 0 → 0 < src.length) : ∀ (fuel pc : Nat) (s : St) (c : Cert), cert? pc = some c → c.rank < fuel →
    Inv src.length c s → GoodRes src.length (run src P fuel pc s) := by
  intro fuel
  induction fuel with
  | zero => intro pc s c _ hr _; omega
  | succ f ih =>
    intro pc s c hc hr hi
    obtain ⟨i, hf, hok⟩ := fetch_ok hc
    have hs := step_good src P i hok hi
    unfold run
    rw [hf]
    dsimp only
    generalize step src P i s = st at hs ⊢
    cases st with
    | next pc' s' =>
      obtain ⟨c', hc', hr', hi'⟩ := hs
      exact ih pc' s' c' hc' (by omega) hi'
    | brk s' => exact finish_good src P hs hp
    | ret r => exact hs

abbrev PfxGood : Except Res Pfx → Prop := ExGood src.length fun a => a.pos ≤ src.length ∧ a.nprefix ≤ src.length

theorem readPrefixes_good : ∀ (m pos : Nat) (a : Pfx), src.length - pos ≤ m → pos ≤ src.length →
    a.nprefix ≤ src.length → PfxGood src (readPrefixes src pos a) := by
  intro m
  induction m with
  | zero =>
    intro pos a hm hle ha
    unfold readPrefixes
    rw [dif_neg (by omega)]
    exact ⟨hle, ha⟩
  | succ m ih =>
    intro pos a hm hle ha
    unfold readPrefixes
    refine q_dite (fun hlt => ?_) fun _ => ⟨hle, ha⟩
    dsimp only
    have hstop : PfxGood src (.ok { a with pos := pos, nprefix := pos }) := ⟨hle, hle⟩
    refine q_ite (fun _ => q_ite (fun _ => ih _ _ (by omega) (by omega) ha) fun _ => hstop) fun _ => ?_
    refine q_ite (fun _ => q_ite (fun _ => ih _ _ (by omega) (by omega) ha) fun _ => hstop) fun _ => ?_
    -- an ordinary prefix: whichever it is, `nprefix` is untouched
    generalize ho : (if (src[pos]).toNat = 0xF0 then some { a with lock := true } else _ : Option Pfx) = o
    cases o with
    | none => exact hstop
    | some a' =>
      have key : a'.nprefix = a.nprefix := by
        revert ho
        repeat' refine q_ite (Q := fun o => o = some a' → a'.nprefix = a.nprefix) (fun _ => ?_) (fun _ => ?_)
        all_goals first | (intro h; cases h; rfl) | exact nofun
      exact q_ite (fun _ => good_instPrefix src (by omega)) fun _ => ih _ _ (by omega) (by omega) (key ▸ ha)

theorem readRex_good (a : Pfx) (h1 : a.pos ≤ src.length) (h2 : a.nprefix ≤ src.length) : PfxGood src (readRex src a) := by
  unfold readRex
  refine q_dite (fun hlt => ?_) fun _ => ⟨h1, h2⟩
  dsimp only
  exact q_ite (fun _ => q_ite (fun _ => good_instPrefix src (by omega)) fun _ => ⟨hlt, h2⟩) fun _ => ⟨h1, h2⟩

/-- every result of the model decoder is good w.r.t. the ≤ 15 bytes it looks at -/
theorem decode_good (src0 : Bytes) : GoodRes (min 15 src0.length) (decode src0) := by
  rw [← List.length_take]
  unfold decode
  dsimp only
  have h1 := readPrefixes_good (src0.take 15) _ 0 {} (Nat.le_refl _) (Nat.zero_le _) (Nat.zero_le _)
  generalize readPrefixes (src0.take 15) 0 {} = y1 at h1 ⊢
  cases y1 with
  | error r => exact h1
  | ok P1 =>
    have h2 := readRex_good (src0.take 15) P1 h1.1 h1.2
    dsimp only
    generalize readRex (src0.take 15) P1 = y2 at h2 ⊢
    cases y2 with
    | error r => exact h2
    | ok P =>
      obtain ⟨c, hc, hr, hna, him, hcs, hz⟩ := entry_cert
      refine run_good (src0.take 15) P (fun hp => by have := h2.2; omega) fuel0 1 _ c hc hr
        ⟨Nat.zero_le _, hna, h2.1, fun h => ?_, fun h => ?_,
          ⟨fun h => absurd h rip_ne_zero, fun _ => rip_ne_zero, fun h => absurd rfl h, fun h => absurd h rip_ne_zero, fun h => absurd rfl h⟩,
          .inr ⟨hz, by show 40 ≤ 32 + 8 * c.z; omega⟩⟩
      · rw [hcs] at h; cases h
      · omega

end C16L
