import GoomVerif.Lemmas.C13L
/-!
# C13 — configuration mistakes are rejected up front and leave nothing patched

All theorems are about `Model/Reject.lean` (a transcription of goom's validation points, tied to the real code by the
differential run of `checks/C13.py`).  They quantify over **every** signature (slot lists of any length), every
callback / value list, every origin placeholder, every function size and every prior state of the image and the
`patches` registry.
-/
namespace C13
open Reject C13L

/-! ## `SignatureEquals`: exactly the count-and-size relation, and the reported slot is the first offender -/

/-- signature.go:9 accepts **iff** both slot lists have pairwise equal sizes (which includes equal counts). -/
theorem signatureEquals_ok_iff (a b : Sig) :
    signatureEquals a b = .ok () ↔
      a.ins.map (·.size) = b.ins.map (·.size) ∧ a.outs.map (·.size) = b.outs.map (·.size) := by
  rw [map_size_eq_iff _ _ 0, map_size_eq_iff _ _ 0]
  unfold signatureEquals
  -- each rejecting exit has just refuted one conjunct; the accepting exit has passed all four tests
  split
  next h => exact ⟨nofun, fun hr => absurd hr.1.1 h⟩
  next h1 =>
    split
    next h => exact ⟨nofun, fun hr => absurd hr.2.1 h⟩
    next h2 =>
      split
      next i h => exact ⟨nofun, fun hr => nomatch h.symm.trans hr.1.2⟩
      next h3 =>
        split
        next i h => exact ⟨nofun, fun hr => nomatch h.symm.trans hr.2.2⟩
        next h4 => exact ⟨fun _ => ⟨⟨Decidable.not_not.1 h1, h3⟩, Decidable.not_not.1 h2, h4⟩, fun _ => rfl⟩

/-- when a parameter size is blamed, it is the first parameter whose size differs (signature.go:19-24) -/
theorem signatureEquals_blames_first_arg (a b : Sig) (i : Nat) (ch : List ErrT)
    (h : signatureEquals a b = .error ⟨.sigArgSize i, ch⟩) :
    (∃ x y, a.ins[i]? = some x ∧ b.ins[i]? = some y ∧ x.size ≠ y.size) ∧
    (∀ j, j < i → ∃ x y, a.ins[j]? = some x ∧ b.ins[j]? = some y ∧ x.size = y.size) ∧ ch = [.str] := by
  unfold signatureEquals at h
  split at h
  · cases h
  · split at h
    · cases h
    · split at h
      next k hk =>
        cases h
        obtain ⟨j, hj, hbad, hlt⟩ := firstSizeMismatch_some _ _ _ _ hk
        rw [Nat.zero_add] at hj
        subst hj
        exact ⟨hbad, hlt, rfl⟩
      next => split at h <;> cases h

example : signatureEquals ⟨[⟨.int, 8, 1, false, 0⟩, ⟨.str, 16, 2, false, 0⟩], [], false, default⟩
    ⟨[⟨.int, 8, 1, false, 0⟩, ⟨.int, 8, 1, false, 0⟩], [], false, default⟩ = .error ⟨.sigArgSize 1, [.str]⟩ := by rfl

/-! ## A rejected call writes nothing, mocks nothing, and leaves at most one inert registry entry -/

/-- `unpatchValue` never mocks anything and only writes for an applied guard -/
theorem unpatchValue_facts (g : G) (t : Nat) :
    (∀ f, mocked (unpatchValue g t) f = true → mocked g f = true) ∧ (unpatchValue g t).tramp = g.tramp ∧
    (unpatchValue g t).patches = upd g.patches t none ∧
    ((∀ e, g.patches t = some e → e.applied = false) → (unpatchValue g t).text = g.text ∧ (unpatchValue g t).writes = g.writes) :=
  ⟨unpatchValue_mocked g t, unpatchValue_tramp g t, unpatchValue_patches g t, unpatchValue_inert g t⟩

/-- patch.go:102: whatever way `replaceFunc` fails, no placeholder was written, no target became mocked, the only
    registry change is the entry `⟨repl, incomplete, not applied⟩` for this very target, and — unless an APPLIED patch of the
    same target was registered before (which line 106 removes first) — no byte was written at all. -/
theorem replaceFunc_rejected (g g' : G) (t fs repl : Nat) (tr : Option Tramp) (e : Rej)
    (h : replaceFunc g t fs repl tr = (g', .error e)) :
    g'.tramp = g.tramp ∧ (∀ f, mocked g' f = true → mocked g f = true) ∧
    g'.patches = upd g.patches t (some ⟨repl, false, false⟩) ∧
    ((∀ p, g.patches t = some p → p.applied = false) → g'.text = g.text ∧ g'.writes = g.writes) ∧
    (e.cls = .funcSmall ∨ e.cls = .alreadyPatched ∨ e.cls = .trampSmall) := by
  obtain ⟨rfl, he⟩ := replaceFunc_error h
  rw [registered_eq]
  refine ⟨unpatchValue_tramp g t, unpatchValue_mocked g t, rfl, unpatchValue_inert g t, ?_⟩
  rcases he with rfl | rfl | rfl
  · exact .inl rfl
  · exact .inr (.inl rfl)
  · exact .inr (.inr rfl)

/-- what every rejected configuration call guarantees about the state it leaves (`g` before, `g'` after, target `t`) -/
structure RejectedNoop (g g' : G) (t repl : Nat) : Prop where
  /-- no origin placeholder was written -/
  tramp : g'.tramp = g.tramp
  /-- a target that was not mocked is still not mocked -/
  not_mocked : ∀ f, mocked g f = false → mocked g' f = false
  /-- the registry is unchanged, or holds exactly one new inert entry (incomplete, never applied) for the target -/
  registry : g'.patches = g.patches ∨ g'.patches = upd g.patches t (some ⟨repl, false, false⟩)
  /-- unless an APPLIED patch of this very target was registered (then patch.go:106 restores it first),
      the image is identical and not a single write happened -/
  text : (∀ p, g.patches t = some p → p.applied = false) → g'.text = g.text ∧ g'.writes = g.writes

theorem RejectedNoop.refl (g : G) (t repl : Nat) : RejectedNoop g g t repl :=
  ⟨rfl, fun _ h => h, Or.inl rfl, fun _ => ⟨rfl, rfl⟩⟩

private theorem RejectedNoop.registered (g : G) (t repl : Nat) : RejectedNoop g (registered g t repl) t repl := by
  rw [registered_eq]
  exact ⟨unpatchValue_tramp g t,
    fun f hf => Bool.eq_false_iff.2 fun h => Bool.eq_false_iff.1 hf (unpatchValue_mocked g t f h),
    .inr rfl, unpatchValue_inert g t⟩

private theorem RejectedNoop.of_kept {g g' : G} {t repl : Nat} (h : Kept g g' t repl) : RejectedNoop g g' t repl := by
  rcases h with rfl | rfl
  · exact .refl _ _ _
  · exact .registered _ _ _

theorem asPanicString_cls (e : Rej) : (asPanicString e).cls = e.cls := by
  unfold asPanicString; split <;> rfl

/-- mocker.go:90 `applyByFunc` (Apply / Return / When of functions and methods all end here): a rejection is either
    raised before `replaceFunc` — then the state is untouched — or inside it, with the guarantees of
    `replaceFunc_rejected`.  In particular `guard.Apply()` (the only writer of a jump) is never reached. -/
theorem applyByFunc_rejected (g g' : G) (tg : Target) (cb : V) (o : OriginV) (repl : Nat) (e : Rej)
    (h : applyByFunc g tg cb o repl = (g', .error e)) :
    RejectedNoop g g' tg.id repl ∧
    (g' = g ∨ (e.cls = .funcSmall ∨ e.cls = .alreadyPatched ∨ e.cls = .trampSmall)) := by
  refine ⟨.of_kept (applyByFunc_kept h), ?_⟩
  obtain ⟨_, rfl | ⟨_, hc⟩⟩ := applyByFunc_error h
  · exact .inl rfl
  · exact .inr hc

/-- **Rejected ⇒ nothing happened** for `Func(f)[.Origin(o)].Apply/Return/When[.Return]` (mocker.go:438-520):
    whatever the action, the signatures, the values, the placeholder and the prior state, the call that is rejected
    leaves the state it started from (for `When(ok).Return(bad)` that is the state the accepted `When` produced) with
    the guarantees of `RejectedNoop`, and the target behaves exactly as before. -/
theorem funcCall_rejected (g : G) (tg : Target) (pre : Beh) (o : OriginV) (repl : Nat) (act : Action) (e : Rej)
    (h : (funcCall g tg pre o repl act).res = .error e) :
    RejectedNoop (funcCall g tg pre o repl act).gBefore (funcCall g tg pre o repl act).g tg.id repl ∧
    (funcCall g tg pre o repl act).beh = (funcCall g tg pre o repl act).behBefore :=
  have c := (funcCall_clean g tg pre o repl act e h).1
  ⟨.of_kept c.1, c.2⟩

/-- the same for `Struct(s).Method(name).Apply/Return/When` (mocker.go:199-330) -/
theorem methodCall_rejected (g : G) (name : String) (found : Bool) (tg : Target) (repl : Nat) (act : Action) (e : Rej)
    (h : (methodCall g name found tg repl act).res = .error e) :
    RejectedNoop (methodCall g name found tg repl act).gBefore (methodCall g name found tg repl act).g tg.id repl ∧
    (methodCall g name found tg repl act).beh = (methodCall g name found tg repl act).behBefore :=
  have c := (methodCall_clean g name found tg repl act e h).1
  ⟨.of_kept c.1, c.2⟩

/-- the hypotheses of `funcCall_rejected` are satisfiable with a non-trivial prior state: the target is already mocked by
    another builder, the callback has one parameter too many; the call is rejected and the other mock stays in place -/
example :
    let g0 : G := { G.init with text := upd G.init.text 3 (some 900), writes := 1, patches := upd G.init.patches 3 (some ⟨900, true, true⟩) }
    let i : Ty := ⟨.int, 8, 25, false, 0⟩
    let out := funcCall g0 { id := 3, sig := ⟨[i], [i], false, i⟩ } .cb .none 901 (.apply (.fn ⟨[i, i], [i], false, i⟩))
    out.res = .error ⟨.sigArgsLen, [.str]⟩ ∧ out.g.text 3 = some 900 ∧ out.g.writes = 1 := by
  refine ⟨rfl, rfl, rfl⟩

/-! ### the inert entry a failing `replaceFunc` leaves behind is harmless -/

/-- `unpatchValue` / `UnpatchAll` on an inert entry (never applied) writes nothing and just drops it -/
theorem stale_unpatch_noop (g : G) (t r : Nat) (c : Bool) (h : g.patches t = some ⟨r, c, false⟩) :
    (unpatchValue g t).text = g.text ∧ (unpatchValue g t).writes = g.writes ∧ (unpatchValue g t).tramp = g.tramp ∧
    (unpatchValue g t).patches t = none := by
  have hi := unpatchValue_inert g t fun e he => by rw [h] at he; cases he; rfl
  exact ⟨hi.1, hi.2, unpatchValue_tramp g t, by rw [unpatchValue_patches]; exact upd_same _ _ _⟩

/-- a later `replaceFunc` of the same target behaves exactly as if the inert entry had never been there -/
theorem stale_replace_same (g : G) (t r fs repl : Nat) (tr : Option Tramp) (h : g.patches t = some ⟨r, false, false⟩) :
    let g0 : G := { g with patches := upd g.patches t none }
    (replaceFunc g t fs repl tr).2 = (replaceFunc g0 t fs repl tr).2 ∧
    (replaceFunc g t fs repl tr).1.text = (replaceFunc g0 t fs repl tr).1.text ∧
    (replaceFunc g t fs repl tr).1.writes = (replaceFunc g0 t fs repl tr).1.writes ∧
    (replaceFunc g t fs repl tr).1.patches = (replaceFunc g0 t fs repl tr).1.patches := by
  intro g0
  -- both runs start their checks from the same state
  have e1 : unpatchValue g t = g0 := by unfold unpatchValue; rw [h]; rfl
  have e2 : unpatchValue g0 t = g0 := by unfold unpatchValue; rw [show g0.patches t = none from upd_same _ _ _]
  have : registered g t repl = registered g0 t repl := by
    rw [registered_eq, registered_eq, e1, e2]
    show _ = { g0 with patches := upd (upd g.patches t none) t _ }
    rw [upd_upd]
  rw [replaceFunc_eq, replaceFunc_eq, this]
  exact ⟨rfl, rfl, rfl, rfl⟩

/-- **no half-patched state**: after a call was rejected for a target that had no applied patch, a correct `Apply` of the
    same target (matching callback, function large enough, not yet patched) is accepted and takes effect -/
theorem retry_after_reject (g g' : G) (tg : Target) (cb : V) (o : OriginV) (repl repl2 : Nat) (e : Rej)
    (h : applyByFunc g tg cb o repl = (g', .error e))
    (hun : g.text tg.id = none) (hreg : ∀ p, g.patches tg.id = some p → p.applied = false) (hsz : jumpLen < tg.fsize) :
    (applyByFunc g' tg (.fn tg.sig) .none repl2).2 = .ok () ∧
    (applyByFunc g' tg (.fn tg.sig) .none repl2).1.text tg.id = some repl2 := by
  -- the rejected call left the entry of the target pristine
  have htext : g'.text tg.id = none := by
    rcases applyByFunc_kept h with rfl | rfl
    · exact hun
    · exact registered_pristine hun _
  have h1 : patchValueChecks (.fn tg.sig) (.fn tg.sig) = .ok () := by
    rw [patchValueChecks_fn]; exact (signatureEquals_ok_iff _ _).2 ⟨rfl, rfl⟩
  have h2 : replaceFunc g' tg.id tg.fsize repl2 none =
      ({ registered g' tg.id repl2 with
          patches := upd (registered g' tg.id repl2).patches tg.id (some ⟨repl2, true, false⟩) }, .ok ()) := by
    rw [replaceFunc_eq]
    dsimp only
    rw [if_neg (Nat.not_le.2 hsz), registered_pristine htext]
    rfl
  unfold applyByFunc
  dsimp only [checkTrampolineFunc, pure, Except.pure]
  rw [h1]
  dsimp only
  rw [h2]
  dsimp only [guardApply]
  rw [upd_same]
  exact ⟨rfl, upd_same _ _ _⟩

/-! ## Every listed mistake is rejected; what is accepted fits -/

theorem patchValueChecks_ok (a : Sig) (cb : V) (h : patchValueChecks (.fn a) cb = .ok ()) :
    ∃ s, cb = .fn s ∧ signatureEquals a s = .ok () := by
  rw [patchValueChecks_fn] at h
  cases cb with
  | fn s => exact ⟨s, rfl, h⟩
  | _ => cases h

/-- **acceptance is sound**: if `Apply(cb)` is accepted then `cb` is a function whose parameter and result lists have
    the target's counts and slot sizes -/
theorem accepted_fits (g : G) (tg : Target) (cb : V) (o : OriginV) (repl : Nat)
    (h : (applyByFunc g tg cb o repl).2 = .ok ()) :
    ∃ s, cb = .fn s ∧ tg.sig.ins.map (·.size) = s.ins.map (·.size) ∧ tg.sig.outs.map (·.size) = s.outs.map (·.size) := by
  unfold applyByFunc at h
  cases h1 : checkTrampolineFunc o with
  | error e1 => simp [h1] at h
  | ok tr =>
    simp only [h1] at h
    cases h2 : patchValueChecks (.fn tg.sig) cb with
    | error e2 => simp [h2] at h
    | ok u =>
      have ⟨s, hs, he⟩ := patchValueChecks_ok _ _ h2
      exact ⟨s, hs, (signatureEquals_ok_iff _ _).1 he⟩

/-- **a callback that is no function, or whose parameter/result count or some slot size differs, is rejected** — before
    `replaceFunc`, so the state is literally untouched (for every origin placeholder, valid or not) -/
theorem callback_mistake_rejected (g : G) (tg : Target) (cb : V) (o : OriginV) (repl : Nat)
    (hbad : ∀ s, cb = .fn s →
      ¬ (tg.sig.ins.map (·.size) = s.ins.map (·.size) ∧ tg.sig.outs.map (·.size) = s.outs.map (·.size))) :
    ∃ e, applyByFunc g tg cb o repl = (g, .error e) := by
  unfold applyByFunc
  cases h1 : checkTrampolineFunc o with
  | error e1 => exact ⟨e1, rfl⟩
  | ok tr =>
    cases h2 : patchValueChecks (.fn tg.sig) cb with
    | error e2 => exact ⟨asPanicString e2, rfl⟩
    | ok u =>
      have ⟨s, hs, he⟩ := patchValueChecks_ok _ _ h2
      exact absurd ((signatureEquals_ok_iff _ _).1 he) (hbad s hs)

/-- satisfiable: a callback with one result too few -/
example : ∃ e, applyByFunc G.init { id := 0, sig := ⟨[], [⟨.int, 8, 25, false, 0⟩], false, default⟩ }
    (.fn ⟨[], [], false, default⟩) .none 1 = (G.init, .error e) :=
  callback_mistake_rejected _ _ _ _ _ (by intro s hs; cases hs; simp)

/-- when.go:77 — **too few return values**: rejected with the typed cause `*erro.ReturnsNotMatch(got, want)`, which is
    what walking the error reaches -/
theorem too_few_returns_rejected (s : Sig) (args : Option (List V)) (vals : List V) (m : Bool)
    (h : vals.length < s.outs.length) :
    createWhen s args (some vals) m = .error ⟨.returnsNotMatch, [.returnsNotMatch vals.length s.outs.length]⟩ ∧
    walk [ErrT.returnsNotMatch vals.length s.outs.length] = some (.returnsNotMatch vals.length s.outs.length) := by
  simp [createWhen, checkParams, h, rej, newReturnsNotMatchError, bind, Except.bind, walk]

/-- `Return()` with no value at all on a function that has results is the same mistake (mocker.go:487) -/
theorem no_return_values_rejected (g : G) (tg : Target) (pre : Beh) (o : OriginV) (repl : Nat) (h : 0 < tg.sig.outs.length) :
    (funcCall g tg pre o repl (.ret none)).res = .error ⟨.returnsNotMatch, [.returnsNotMatch 0 tg.sig.outs.length]⟩ ∧
    (funcCall g tg pre o repl (.ret none)).g = g := by
  have := (too_few_returns_rejected tg.sig none [] false (by simpa using h)).1
  simp [funcCall, firstReturnValues, this]

/-- the number of condition arguments a first `When` must at least give (when.go:80-88): the parameters without the
    receiver and without the variadic slot — `When(1)` on `f(int, ...int)` describes the legal call `f(1)` -/
def requiredArgs (s : Sig) (m : Bool) : Nat :=
  s.ins.length - (if m then 1 else 0) - (if s.variadic then 1 else 0)

/-- when.go:89 — **too few condition arguments** (fewer than the FIXED parameters): typed cause `*erro.ArgsNotMatch(got, want)` -/
theorem too_few_args_rejected (s : Sig) (as : List V) (m : Bool) (h : as.length < requiredArgs s m) :
    createWhen s (some as) none m = .error ⟨.argsNotMatch, [.argsNotMatch as.length (requiredArgs s m)]⟩ := by
  unfold requiredArgs at h ⊢
  simp [createWhen, checkParams, h, rej, bind, Except.bind]

example : createWhen ⟨[⟨.str, 16, 31, false, 0⟩, ⟨.int, 8, 25, false, 0⟩, ⟨.slice, 24, 32, false, 0⟩], [], true, ⟨.int, 8, 25, false, 0⟩⟩
    (some [.val ⟨.str, 16, 31, false, 0⟩]) none false = .error ⟨.argsNotMatch, [.argsNotMatch 1 2]⟩ :=
  too_few_args_rejected _ _ _ (by decide)

/-- **any wrong number of return values** (too few or too many) is rejected, whatever the values are -/
theorem wrong_return_count_rejected (s : Sig) (vals : List V) (m : Bool) (h : vals.length ≠ s.outs.length) :
    ∃ e, createWhen s none (some vals) m = .error e := by
  by_cases hlt : vals.length < s.outs.length
  · exact ⟨_, (too_few_returns_rejected s none vals m hlt).1⟩
  · refine ⟨⟨.retvalCount, [.str]⟩, ?_⟩
    simp [createWhen, checkParams, hlt, addResult, i2v, h, rStr, rej, bind, Except.bind, pure, Except.pure]

theorem slotType_lt (types : List Ty) (i : Nat) (h : i < types.length) : slotType types i = types[i]? := by
  unfold slotType
  by_cases h1 : i + 1 < types.length
  · simp [h1]
  · have hi : i = types.length - 1 := by omega
    simp only [h1, if_false]
    rw [List.getLast?_eq_getElem?, hi]

/-- the conversion loop fails as soon as one slot fails -/
theorem convLoop_error (conv : V → Ty → Except TvErr Unit) (types : List Ty) :
    ∀ (vs : List V) (i : Nat), i + vs.length ≤ types.length →
      (∃ j v t er, vs[j]? = some v ∧ types[i + j]? = some t ∧ conv v t = .error er) →
      ∃ er, convLoop conv types vs i = .error er
  | [], _, _, ⟨j, v, t, er, hv, _, _⟩ => by simp at hv
  | a :: rest, i, hlen, ⟨j, v, t, er, hv, ht, hc⟩ => by
    have hi : i < types.length := by simp at hlen; omega
    rw [convLoop, slotType_lt types i hi, List.getElem?_eq_getElem hi]
    dsimp only
    cases j with
    | zero =>
      -- the failing slot is this one
      obtain rfl : a = v := by simpa using hv
      obtain rfl : types[i] = t := by simpa [List.getElem?_eq_getElem hi] using ht
      exact ⟨er, by rw [hc]; rfl⟩
    | succ j =>
      cases conv a types[i] with
      | error e1 => exact ⟨e1, rfl⟩
      | ok _ =>
        exact convLoop_error conv types rest (i + 1) (by simp at hlen ⊢; omega)
          ⟨j, v, t, er, by simpa using hv, by rw [show i + 1 + j = i + (j + 1) by omega]; exact ht, hc⟩

/-- value.go:71 — a non-nil value whose size differs from a non-interface result slot does not convert -/
theorem toValue_size_mismatch (t out : Ty) (hk : out.kind ≠ .iface) (hs : t.size ≠ out.size) :
    ∃ er, toValue (.val t) out = .error er := by
  unfold toValue
  simp only [V.ty?]
  by_cases hc : ¬t = out ∧ (out.kind = .strct ∨ out.kind = .ptr)
  · exact ⟨.typeMismatch, by simp [hc, hs]⟩
  · by_cases hi : t.kind = .ptr ∧ t.id = idIfaceICtx
    · exact ⟨.ictxPanic, by simp [hc, hi]⟩
    · exact ⟨.typeMismatch, by simp [hc, hi, hk, hs]⟩

/-- **a return value whose size does not fit its result slot is rejected** (at any position, for any list) -/
theorem return_size_mismatch_rejected (s : Sig) (vals : List V) (m : Bool) (i : Nat) (t out : Ty)
    (hv : vals[i]? = some (.val t)) (ho : s.outs[i]? = some out) (hk : out.kind ≠ .iface) (hs : t.size ≠ out.size) :
    ∃ e, createWhen s none (some vals) m = .error e := by
  by_cases hlen : vals.length = s.outs.length
  · have ⟨er, her⟩ := toValue_size_mismatch t out hk hs
    have ⟨e2, he2⟩ := convLoop_error toValue s.outs vals 0 (by omega) ⟨i, _, _, er, hv, by simpa using ho, her⟩
    cases e2 <;>
      exact ⟨_, by simp [createWhen, checkParams, addResult, i2v, hlen, he2, bind, Except.bind, pure, Except.pure]; rfl⟩
  · exact wrong_return_count_rejected s vals m hlen

example : ∃ e, createWhen ⟨[], [⟨.int, 8, 25, false, 0⟩, ⟨.str, 16, 31, false, 0⟩], false, default⟩ none
    (some [.val ⟨.int, 8, 25, false, 0⟩, .val ⟨.int, 4, 23, false, 0⟩]) false = .error e :=
  return_size_mismatch_rejected _ _ _ 1 ⟨.int, 4, 23, false, 0⟩ ⟨.str, 16, 31, false, 0⟩ rfl rfl (by decide) (by decide)

/-- **unknown or empty method name**: rejected, state untouched (mocker.go:200,207) -/
theorem unknown_method_rejected (g : G) (name : String) (tg : Target) (repl : Nat) (act : Action) :
    ∃ e, (methodCall g name false tg repl act).res = .error e ∧ (methodCall g name false tg repl act).g = g := by
  unfold methodCall
  by_cases hn : name = "" <;> simp [hn, rStr, rej]

/-- **unknown symbol name** (ExportFunc / ExportStruct, Apply or As): rejected (func.go:60, mocker.go:414) -/
theorem unknown_symbol_rejected (form : ExportForm) (nameEmpty asCall : Bool) :
    ∃ e, exportCall form nameEmpty false asCall = .error e := by
  unfold exportCall
  by_cases h1 : (form = .func && nameEmpty) = true
  · exact ⟨_, by simp only [h1, if_true]; rfl⟩
  · cases asCall <;> simp [h1, rStr, rej]

/-- **a non-pointer or a pointer to a non-interface handed to `Interface`** is rejected for every method name, callback
    and action, and the variable is never replaced -/
theorem iface_kind_rejected (v : IfaceVar) (hv : v ≠ .ptrIface) (name : String) (found : Bool) (m : Sig) (cb : V) :
    ∃ e, ifaceCall v name found m (.apply cb) = (.error e, false) :=
  ifaceCall_rejects hv name found m (.apply cb)

/-- interface.go:36 ff. — **an interface-method callback is accepted iff** it has exactly the method's parameters after the
    leading `*IContext`, the same number of results, and equal slot sizes -/
theorem ifaceSignature_ok_iff (m cb : Sig) :
    ifaceSignature m cb = .ok () ↔
      cb.ins.length = m.ins.length + 1 ∧ m.ins.map (·.size) = (cb.ins.drop 1).map (·.size) ∧
      m.outs.map (·.size) = cb.outs.map (·.size) := by
  rw [map_size_eq_iff _ _ 0, map_size_eq_iff _ _ 0, List.length_drop]
  unfold ifaceSignature
  -- exit by exit as for `signatureEquals_ok_iff`; the first test is implied by the second and only needs arithmetic
  split
  next h => exact ⟨nofun, fun hr => by omega⟩
  next h1 =>
    split
    next h => exact ⟨nofun, fun hr => absurd hr.1 h⟩
    next h2 =>
      split
      next h => exact ⟨nofun, fun hr => absurd hr.2.2.1.symm h⟩
      next h3 =>
        split
        next h4 h5 =>
          exact ⟨fun _ => ⟨Decidable.not_not.1 h2, ⟨by omega, h4⟩, (Decidable.not_not.1 h3).symm, h5⟩, fun _ => rfl⟩
        next hn => exact ⟨nofun, fun hr => (hn hr.2.1.2 hr.2.2.2).elim⟩

/-! ## The cause chain can be walked to the typed cause -/

/-- every rejection of an interface callback is `TraceableError → *IllegalParam → typed cause`; walking with `erro.Cause`
    ends at `*erro.IllegalParam` (what `TestUnitArgsNotMatch` asserts: `IllegalParam` has `Cause()` but is not `Traceable`),
    and its own `Cause()` is one of the three typed causes -/
theorem cause_iface_signature (m cb : Sig) (e : Rej) (h : ifaceSignature m cb = .error e) :
    walk e.chain = some .illegalParam ∧
    ∃ c, e.chain = [.traceable, .illegalParam, c] ∧
      (c = .argsNotMatch cb.ins.length (m.ins.length + 1) ∨ c = .returnsNotMatch cb.outs.length m.outs.length ∨ c = .illegalParamType) := by
  unfold ifaceSignature at h
  by_cases h1 : m.ins.length ≥ cb.ins.length
  · rw [if_pos h1] at h; cases h; exact ⟨rfl, _, rfl, .inl rfl⟩
  rw [if_neg h1] at h
  by_cases h2 : cb.ins.length ≠ m.ins.length + 1
  · rw [if_pos h2] at h; cases h; exact ⟨rfl, _, rfl, .inl rfl⟩
  rw [if_neg h2] at h
  by_cases h3 : cb.outs.length ≠ m.outs.length
  · rw [if_pos h3] at h; cases h; exact ⟨rfl, _, rfl, .inr (.inl rfl)⟩
  rw [if_neg h3] at h
  split at h
  · cases h
  · cases h; exact ⟨rfl, _, rfl, .inr (.inr rfl)⟩

/-- `erro.Cause` never stops at a wrapper: the walk over any chain the model produces for an interface mock ends at a
    node that is not `*TraceableError` -/
theorem walk_not_wrapper : ∀ (c : List ErrT), c ≠ [] → c.getLast? ≠ some .traceable → ∃ x, walk c = some x ∧ x ≠ .traceable
  | [], h, _ => absurd rfl h
  | [e], _, h2 => ⟨e, rfl, by simpa using h2⟩
  | e :: c :: rest, _, h2 => by
    cases e with
    | traceable =>
      rw [List.getLast?_cons_cons] at h2
      exact walk_not_wrapper (c :: rest) (List.cons_ne_nil _ _) h2
    | _ => exact ⟨_, rfl, by simp⟩

/-! ## Sequences: every later configuration call on an already configured mocker -/

/-- the first `Return/When/Returns` of a mocker: whichever step it is, a rejection leaves the image and the registry as
    `RejectedNoop` says and the entry jumping where it did -/
theorem seqFirst_rejected (tg : Target) (isM : Bool) (repl : Nat) (ms ms' : MS) (st : Step) (e : Rej)
    (h : seqFirst tg isM repl ms st = (ms', .error e)) :
    RejectedNoop ms.g ms'.g tg.id repl ∧ ms'.imp = ms.imp :=
  have c := ((seqFirst_clean tg isM repl ms st).elim h).1
  ⟨.of_kept c.1, c.2⟩

/-- **a rejected call at any point of a configuration sequence** (`Return/When/Returns/AndReturn/In/Matches/Apply`, on the
    handle or through a repeated lookup; functions and methods): the image, the registry and what the entry jumps to are
    as `RejectedNoop` says — in particular a first `Returns(..)` whose value list is bad is rejected BEFORE `doApply`
    (the value lists are checked before `m.whens`), and a call that only adds matchers never touches the image at all. -/
theorem seqStep_rejected (tg : Target) (isM : Bool) (repl : Nat) (ms ms' : MS) (st : Step) (e : Rej)
    (h : seqStep tg isM repl ms st = (ms', .error e)) :
    RejectedNoop ms.g ms'.g tg.id repl ∧ ms'.imp = ms.imp :=
  have c := ((seqStep_clean tg isM repl ms st).elim h).1
  ⟨.of_kept c.1, c.2⟩

/-- consequently a target whose entry does not (yet) jump to this mocker's When-function behaves exactly as before -/
theorem seqStep_rejected_behaviour (tg : Target) (isM : Bool) (repl : Nat) (ms ms' : MS) (st : Step) (e : Rej) (pre : Beh)
    (h : seqStep tg isM repl ms st = (ms', .error e)) (hi : ms.imp ≠ .whenFn) :
    behOf pre ms' = behOf pre ms := by
  have hh := (seqStep_rejected _ _ _ _ _ _ _ h).2
  unfold behOf
  rw [hh]
  cases hk : ms.imp with
  | none => rfl
  | cb => rfl
  | whenFn => exact absurd hk hi

/-- a first `Returns(ok, bad)` on a not yet mocked method: rejected, nothing written, the entry still pristine -/
example :
    let i : Ty := ⟨.int, 8, 25, false, 0⟩
    let i32 : Ty := ⟨.int, 4, 23, false, 0⟩
    let r := seqStep { id := 0, sig := ⟨[i], [i], false, i⟩ } true 901 ⟨G.init, none, .none⟩ (.returns [[.val i], [.val i32]])
    r.2 = .error ⟨.retvalType, [.str]⟩ ∧ r.1.g.writes = 0 ∧ r.1.g.text 0 = none := by
  refine ⟨rfl, rfl, rfl⟩

/-- when.go:103 — **a follow-up `When` with the wrong number of condition arguments is rejected** (non-variadic
    target; too few and too many), on the handle and through the cached mocker alike, and the `*When` is unchanged -/
theorem follow_up_when_count_rejected (s : Sig) (isM : Bool) (w : WS) (args : Option (List V)) (hit : Bool)
    (hv : s.variadic = false) (h : (args.getD []).length ≠ (inTypes isM s).length) :
    whenStep s isM w (.when_ args hit) = (w, .error ⟨.whenCount, [.str]⟩) := by
  simp [whenStep, wWhen, newDefaultMatch, hv, toExpr, h, rStr, rej, bind, Except.bind]

/-- when.go:123 — the same for `In(...)`: a group with the wrong number of conditions is rejected -/
theorem follow_up_in_count_rejected (s : Sig) (isM : Bool) (w : WS) (g : List V) (h : Bool) (rest : List (InArg × Bool))
    (hv : s.variadic = false) (hlen : g.length ≠ (inTypes isM s).length) :
    whenStep s isM w (.in_ ((.list g, h) :: rest)) = (w, .error ⟨.inCount, [.str]⟩) := by
  simp [whenStep, wIn, inParam, hv, toExpr, hlen, rStr, rej, pure, Except.pure]

/-- **variadic targets**: a later `When` / `Matches` with fewer conditions than FIXED parameters is rejected
    (matcher.go:97-105: the type list keeps all fixed parameters, so `ToExpr`'s count test fails), however many fixed
    parameters there are -/
theorem follow_up_variadic_too_few_rejected (s : Sig) (isM : Bool) (w : WS) (args : Option (List V)) (hit : Bool)
    (hv : s.variadic = true) (h : (args.getD []).length < (inTypes isM s).length - 1) :
    whenStep s isM w (.when_ args hit) = (w, .error ⟨.whenCount, [.str]⟩) := by
  have hne : ¬ (args.getD []).length = (inTypes isM s).length - 1 +
      ((args.getD []).length - ((inTypes isM s).length - 1)) := by omega
  simp [whenStep, wWhen, newDefaultMatch, hv, toExpr, hne, rStr, rej, bind, Except.bind]

/-- and the same for `In(...)` on a variadic target (value.go:118) -/
theorem follow_up_variadic_in_too_few_rejected (s : Sig) (isM : Bool) (w : WS) (g : List V) (h : Bool)
    (rest : List (InArg × Bool)) (hv : s.variadic = true) (hlen : g.length < (inTypes isM s).length - 1) :
    whenStep s isM w (.in_ ((.list g, h) :: rest)) = (w, .error ⟨.inCount, [.str]⟩) := by
  simp [whenStep, wIn, inParam, hv, toExprV, hlen, rStr, rej, pure, Except.pure]

example :
    let i : Ty := ⟨.int, 8, 25, false, 0⟩
    let st : Ty := ⟨.str, 16, 31, false, 0⟩
    let sl : Ty := ⟨.slice, 24, 32, false, 0⟩
    whenStep ⟨[st, i, sl], [i], true, i⟩ false ⟨true, true, true, true⟩ (.when_ (some [.val st]) false) =
      (⟨true, true, true, true⟩, .error ⟨.whenCount, [.str]⟩) :=
  follow_up_variadic_too_few_rejected _ _ _ _ _ rfl (by decide)

/-- when.go:168 — and for `Matches(...)`: a pair whose condition list has the wrong length is rejected -/
theorem follow_up_matches_count_rejected (s : Sig) (isM : Bool) (w : WS) (a r : List V) (hit : Bool)
    (rest : List (List V × Bool × List V)) (hv : s.variadic = false) (hlen : a.length ≠ (inTypes isM s).length) :
    whenStep s isM w (.matchPairs ((a, hit, r) :: rest)) = (w, .error ⟨.whenCount, [.str]⟩) := by
  simp [whenStep, wMatches, newDefaultMatch, hv, toExpr, hlen, rStr, rej]

example : whenStep ⟨[⟨.int, 8, 25, false, 0⟩, ⟨.str, 16, 31, false, 0⟩], [], false, default⟩ false ⟨true, true, true, true⟩
    (.when_ (some [.val ⟨.int, 8, 25, false, 0⟩]) false) = (⟨true, true, true, true⟩, .error ⟨.whenCount, [.str]⟩) :=
  follow_up_when_count_rejected _ _ _ _ _ rfl (by decide)

/-! ## Retries: a rejected call leaves nothing behind that would let the same mistake pass later -/

/-- an unknown or empty method name is rejected **every time** it is looked up (cache.go:139/44 validate before caching),
    and the mocker is exactly as before -/
theorem lookup_unknown_always_rejected (tg : Target) (isM : Bool) (repl : Nat) (ms : MS) (name : String) :
    ∃ e, seqStep tg isM repl ms (.lookup name false) = (ms, .error e) := by
  by_cases hn : name = "" <;> simp [seqStep, lookupCheck, hn, rStr, rej]

/-- an ill-formed `Apply` after a valid stub: rejected, and the mocker still holds the same `When` and the entry still
    jumps to the same function — the earlier configuration keeps answering (mocker.go:508: `doApply` first, `m.when = nil` after) -/
theorem bad_apply_keeps_configuration (tg : Target) (isM : Bool) (repl : Nat) (ms ms' : MS) (cb : V) (e : Rej) (pre : Beh)
    (h : seqStep tg isM repl ms (.apply cb) = (ms', .error e)) :
    ms'.when = ms.when ∧ ms'.imp = ms.imp ∧ behOf pre ms' = behOf pre ms := by
  simp only [seqStep] at h
  cases h1 : applyByFunc ms.g tg cb .none repl with
  | mk g1 r =>
    cases r with
    | error e1 =>
      simp only [h1, Prod.mk.injEq] at h
      obtain ⟨rfl, _⟩ := h
      exact ⟨rfl, rfl, rfl⟩
    | ok u => simp [h1, pure, Except.pure] at h

/-- the first `Return/When/Returns` of an interface-method mocker: a rejection leaves the mocker exactly as it was -/
theorem ifaceFirst_rejected (m : Sig) (s s' : IS) (st : Step) (e : Rej) (h : ifaceFirst m s st = (s', .error e)) : s' = s :=
  ((ifaceFirst_clean m s st).elim h).1

/-- interface mockers (iface.go:112-186): a rejected call never replaces the variable, never changes what the method
    dispatches to nor the `As` function, and — when no `When` existed yet — leaves the mocker exactly as it was, so the
    same ill-fitting stub is rejected again on every retry -/
theorem ifaceMainStep_rejected (m : Sig) (s s' : IS) (st : Step) (e : Rej) (h : ifaceMainStep m s st = (s', .error e)) :
    s'.set = s.set ∧ s'.imp = s.imp ∧ s'.fn = s.fn ∧ (s.when = none → s' = s) :=
  ((ifaceMainStep_clean m s st).elim h).1

theorem good_holderStep (m fn : Sig) (st : Step) : Good (holderStep m fn st) := by
  cases st with
  | apply cb => unfold holderStep; exact good_applyIface _ _ _
  | ret _ | when_ _ _ => unfold holderStep; exact good_bind (good_createWS _ _ _ _ _) fun _ => good_applyIface _ _ _
  | returns gs =>
    unfold holderStep
    refine good_bind (good_createWS _ _ _ _ _) fun w0 => ?_
    split
    next e he => exact (good_wReturns _ _ _ _).error (congrArg Prod.snd he)
    next => exact good_applyIface _ _ _
  | _ => exact good_pure ()

private theorem ifaceSeqStep_clean (m : Sig) (s : IS) (st : Step) : CleanIface s (ifaceSeqStep m s st) := by
  unfold ifaceSeqStep
  split
  · split
    · exact fun _ h => nomatch h
    · exact Untouched.clean (Rejecting.of_good (x := (rStr .methodNotFound : R Unit)) good_exit rfl)
  · split
    · exact Untouched.clean (Rejecting.of_good (good_holderStep _ _ _) rfl)
    · exact ifaceMainStep_clean m s _

/-- interface mockers (iface.go:112-186), also when the test goes through `Interface(&structHoldingTheVariable)`: a rejected
    call never replaces the variable, never changes what the method dispatches to nor the `As` function, and — when no `When`
    existed yet — leaves the mocker exactly as it was, so the same ill-fitting stub is rejected again on every retry -/
theorem ifaceSeqStep_rejected (m : Sig) (s s' : IS) (st : Step) (e : Rej) (h : ifaceSeqStep m s st = (s', .error e)) :
    s'.set = s.set ∧ s'.imp = s.imp ∧ s'.fn = s.fn ∧ (s.when = none → s' = s) :=
  ((ifaceSeqStep_clean m s st).elim h).1

/-- **through the struct that holds the variable nothing is ever installed**: once the test configures via
    `Interface(&holder)` (a pointer to a non-interface with the variable's address), every configuration call is
    rejected or leaves the state untouched — the mock of the variable made earlier keeps answering -/
theorem holder_never_installs (m : Sig) (s : IS) (st : Step) (hv : s.via = true) (hc : isConfigStep st = true) :
    (ifaceSeqStep m s st).1 = s := by
  cases st <;> simp [isConfigStep] at hc <;> simp [ifaceSeqStep, hv, isConfigStep]

/-- hence retrying the same rejected first configuration of an interface method gives the same rejection -/
theorem iface_retry_same (m : Sig) (s s' : IS) (st : Step) (e : Rej) (hw : s.when = none)
    (h : ifaceSeqStep m s st = (s', .error e)) : ifaceSeqStep m s' st = (s', .error e) := by
  obtain rfl := (ifaceSeqStep_rejected m s s' st e h).2.2.2 hw
  exact h

/-- satisfiable: an `As` function with one parameter too many, `Return` rejected twice in a row -/
example :
    let i : Ty := ⟨.int, 8, 25, false, 0⟩
    let c : Ty := ⟨.ptr, 8, idMockerICtx, false, 0⟩
    let s0 : IS := ⟨false, none, .none, ⟨[c, i, i], [i], false, i⟩, false⟩
    let r1 := ifaceSeqStep ⟨[i], [i], false, i⟩ s0 (.ret (some [.val i]))
    r1.2 = .error ⟨.illegalParam, [.traceable, .illegalParam, .argsNotMatch 3 2]⟩ ∧
    (ifaceSeqStep ⟨[i], [i], false, i⟩ r1.1 (.ret (some [.val i]))).2 = r1.2 := by
  refine ⟨rfl, rfl⟩

/-- interface.go:23 — a slice / array / map / chan of the interface type (anything that is not a pointer) handed to
    `Interface` is rejected with the typed cause even though `Elem()` is the interface and the method name resolves -/
theorem iface_non_pointer_container_rejected (k : Kind) (name : String) (m c : Sig) (first : Ty) (rest : List Ty)
    (hn : name ≠ "") (hk : hasElem k = true) (hc : c.ins = first :: rest)
    (hctx : first.kind = .ptr ∧ first.id = idMockerICtx) :
    ifaceCall (.value k true) name true m (.apply (.fn c)) =
      (.error ⟨.illegalParamType, [.traceable, .illegalParamType]⟩, false) ∧
    walk [ErrT.traceable, .illegalParamType] = some .illegalParamType := by
  have h0 : ifaceMethod (.value k true) name true = .ok () := by
    simp [ifaceMethod, hn, hk, pure, Except.pure]
  simp [ifaceCall, h0, applyIface, hc, hctx, rej, walk]

/-! ## The cause chain, once and for all: every rejection of every producer

`Rej.shape` lists the chain shapes per class; `Lemmas/C13L.lean` shows (lemmas `good_…`, `signatureEquals_error`,
`patchValueChecks_fn_error`, `replaceFunc_error`, `applyByFunc_error`) that every function of `Model/Reject.lean` that
can reject (`sigOf`, `signatureEquals`, `checkTrampolineFunc`, `patchValueChecks` against a function target, `replaceFunc`, `applyByFunc`,
`addResult`, `newDefaultMatch`, `checkParams`, `createWhen`, `whenReturn`, `createWS`, `wWhen`, `wReturn`, `wAndReturn`,
`wReturns`, `wIn`, `wMatches`, `whenStep`, `lookupCheck`, `nonFuncCall`, `exportCall`, `ifaceMethod`, `ifaceSignature`,
`applyIface`) only produces those shapes. -/

theorem shape_sound (r : Rej) (h : r.shape = true) :
    wellFormed r.chain = true ∧
    ∃ e, walk r.chain = some e ∧ e ≠ .traceable ∧ typedEnd r.cls e = true ∧
      (isStrCls r.cls = true → r.chain = [.str]) := by
  obtain ⟨cls, chain⟩ := r
  unfold Rej.shape at h
  simp only at h
  split at h
  · rename_i _ e
    have hne : e ≠ .traceable := by
      intro hh; subst hh
      cases cls <;> cases h
    refine ⟨by simp [wellFormed, hne], e, rfl, hne, h, ?_⟩
    intro hs
    simp only at hs
    simp [typedEnd, hs] at h
    simp [h]
  · simp only [beq_iff_eq] at h; subst h
    exact ⟨rfl, .plain, rfl, by simp, rfl, by simp [isStrCls]⟩
  · simp only [beq_iff_eq] at h; subst h
    exact ⟨rfl, .illegalParamType, rfl, by simp, rfl, by simp [isStrCls]⟩
  · rename_i _ c
    simp only [Bool.and_eq_true, beq_iff_eq] at h
    obtain ⟨h1, h2⟩ := h; subst h1
    refine ⟨?_, .illegalParam, rfl, by simp, rfl, by simp [isStrCls]⟩
    cases c <;> simp [isTypedInner] at h2 <;> rfl
  · simp at h


theorem funcCall_shape (g : G) (tg : Target) (pre : Beh) (o : OriginV) (repl : Nat) (act : Action) (e : Rej)
    (h : (funcCall g tg pre o repl act).res = .error e) : e.shape = true :=
  (funcCall_clean g tg pre o repl act e h).2

theorem methodCall_shape (g : G) (name : String) (found : Bool) (tg : Target) (repl : Nat) (act : Action) (e : Rej)
    (h : (methodCall g name found tg repl act).res = .error e) : e.shape = true :=
  (methodCall_clean g name found tg repl act e h).2

theorem ifaceCall_shape (v : IfaceVar) (name : String) (found : Bool) (m : Sig) (act : IfaceAction) (e : Rej) (b : Bool)
    (h : ifaceCall v name found m act = (.error e, b)) : e.shape = true :=
  good_ifaceCall v name found m act e (congrArg Prod.fst h)

theorem seqFirst_shape (tg : Target) (isM : Bool) (repl : Nat) (ms ms' : MS) (st : Step) (e : Rej)
    (h : seqFirst tg isM repl ms st = (ms', .error e)) : e.shape = true :=
  ((seqFirst_clean tg isM repl ms st).elim h).2

theorem seqStep_shape (tg : Target) (isM : Bool) (repl : Nat) (ms ms' : MS) (st : Step) (e : Rej)
    (h : seqStep tg isM repl ms st = (ms', .error e)) : e.shape = true :=
  ((seqStep_clean tg isM repl ms st).elim h).2

theorem ifaceFirst_shape (m : Sig) (s s' : IS) (st : Step) (e : Rej)
    (h : ifaceFirst m s st = (s', .error e)) : e.shape = true :=
  ((ifaceFirst_clean m s st).elim h).2

theorem ifaceMainStep_shape (m : Sig) (s s' : IS) (st : Step) (e : Rej)
    (h : ifaceMainStep m s st = (s', .error e)) : e.shape = true :=
  ((ifaceMainStep_clean m s st).elim h).2

theorem ifaceSeqStep_shape (m : Sig) (s s' : IS) (st : Step) (e : Rej)
    (h : ifaceSeqStep m s st = (s', .error e)) : e.shape = true :=
  ((ifaceSeqStep_clean m s st).elim h).2

theorem fmApply_shape (g g' : G) (tg : Target) (cb : V) (repl : Nat) (e : Rej)
    (h : fmApply g tg cb repl = (g', .error e)) : e.shape = true :=
  good_fmApply g tg cb repl e (congrArg Prod.snd h)

/-- patch.go:139 (goom 03ba08b): on the by-name route of a method-value target **a replacement that is not a function is
    rejected** — a nil, an int, a `*int`, a slice — with the state literally untouched -/
theorem fm_nonfunction_rejected (g : G) (tg : Target) (cb : V) (repl : Nat) (h : ∀ s, cb ≠ .fn s) :
    fmApply g tg cb repl = (g, .error ⟨.replKind, [.str]⟩) := by
  cases cb with
  | fn s => exact absurd rfl (h s)
  | nil | val _ | expr => rfl

example : fmApply G.init { id := 0, sig := default } (.val ⟨.ptr, 8, 34, false, 0⟩) 1 = (G.init, .error ⟨.replKind, [.str]⟩) :=
  fm_nonfunction_rejected _ _ _ _ (by intro s hs; cases hs)

theorem fmCall_shape (g : G) (tg : Target) (msig : Sig) (repl : Nat) (act : Action) (e : Rej)
    (h : (fmCall g tg msig repl act).2.1 = .error e) : e.shape = true :=
  good_fmCall g tg msig repl act e h

/-- every way a configuration call of the model can be rejected -/
inductive Produced : Rej → Prop
  | func (g : G) (tg : Target) (pre : Beh) (o : OriginV) (repl : Nat) (act : Action) (e : Rej) :
      (funcCall g tg pre o repl act).res = .error e → Produced e
  | nonFunc (k : Kind) (e : Rej) : nonFuncCall k = .error e → Produced e
  | method (g : G) (name : String) (found : Bool) (tg : Target) (repl : Nat) (act : Action) (e : Rej) :
      (methodCall g name found tg repl act).res = .error e → Produced e
  | export_ (form : ExportForm) (a b c : Bool) (e : Rej) : exportCall form a b c = .error e → Produced e
  | iface (v : IfaceVar) (name : String) (found : Bool) (m : Sig) (act : IfaceAction) (e : Rej) (b : Bool) :
      ifaceCall v name found m act = (.error e, b) → Produced e
  | seq (tg : Target) (isM : Bool) (repl : Nat) (ms ms' : MS) (st : Step) (e : Rej) :
      seqStep tg isM repl ms st = (ms', .error e) → Produced e
  | ifaceSeq (m : Sig) (s s' : IS) (st : Step) (e : Rej) : ifaceSeqStep m s st = (s', .error e) → Produced e
  | direct (g g' : G) (tg : Target) (cb : V) (o : OriginV) (repl : Nat) (e : Rej) :      -- Func(&fnVar).Apply, ExportFunc(..).As(..).Apply
      applyByFunc g tg cb o repl = (g', .error e) → Produced e
  | fm (g : G) (tg : Target) (msig : Sig) (repl : Nat) (act : Action) (e : Rej) :        -- Func(obj.M).<action>
      (fmCall g tg msig repl act).2.1 = .error e → Produced e

theorem produced_shape (r : Rej) (h : Produced r) : r.shape = true := by
  cases h with
  | func g tg pre o repl act e h => exact funcCall_shape _ _ _ _ _ _ _ h
  | nonFunc k e h => exact good_nonFuncCall _ _ h
  | method g name found tg repl act e h => exact methodCall_shape _ _ _ _ _ _ _ h
  | export_ form a b c e h => exact good_exportCall _ _ _ _ _ h
  | iface v name found m act e b h => exact ifaceCall_shape _ _ _ _ _ _ _ h
  | seq tg isM repl ms ms' st e h => exact seqStep_shape _ _ _ _ _ _ _ h
  | ifaceSeq m s s' st e h => exact ifaceSeqStep_shape _ _ _ _ _ h
  | direct g g' tg cb o repl e h => exact (applyByFunc_error h).1
  | fm g tg msig repl act e h => exact fmCall_shape _ _ _ _ _ _ h

/-! ### the Go side: what the probe (and erro.Cause) does with the error value -/

/-- the probe's chain listing followed by the model's `walk` is the Go walk -/
theorem probe_walk_eq_model_walk : ∀ e : GoErr, walk (probeChain e) = some (erroWalk e)
  | .leaf t => by simp [probeChain, walk, erroWalk]
  | .wrap t c => by
    have ih := probe_walk_eq_model_walk c
    obtain ⟨xs, hpc⟩ := probeChain_cons c
    rw [hpc] at ih
    cases t <;> simp [probeChain, exposesCause, erroWalk, walk, hpc, ih]

/-- `erro.Cause` on the Go value is the model's `cause` on the listed chain -/
theorem probe_cause_eq_model_cause (e : GoErr) :
    (erroCause e).map probeChain = cause (probeChain e) := by
  cases e with
  | leaf t => simp [erroCause, probeChain, cause]
  | wrap t c =>
    obtain ⟨xs, hpc⟩ := probeChain_cons c
    cases t <;> simp [erroCause, probeChain, exposesCause, cause, hpc]

theorem toGo_probeChain : ∀ (c : List ErrT), wellFormed c = true → ∃ g, toGo c = some g ∧ probeChain g = c
  | [], h => by simp [wellFormed] at h
  | [t], _ => ⟨.leaf t, rfl, rfl⟩
  | t :: u :: rest, h => by
    simp only [wellFormed, Bool.and_eq_true] at h
    have ⟨g, hg, hp⟩ := toGo_probeChain (u :: rest) h.2
    exact ⟨.wrap t g, by simp [toGo, hg], by simp [probeChain, h.1, hp]⟩


/-- **The cause-chain clause, for every rejection of every producer.**  Whatever configuration call is rejected
    (`Produced r`):
    * the chain is well formed — every element but the last is of a type that stores its cause, so each wrapper's cause
      is the next element, and it denotes a Go error value `g` whose chain as the probe lists it is exactly `r.chain`;
    * the `erro.Cause` walk over `g` (erro/traceable.go:16) terminates at a node `e` that is not a wrapper
      (`*TraceableError`);
    * `e` is the typed cause assigned to the class (`typedEnd`): `*ArgsNotMatch`, `*ReturnsNotMatch`, `*IllegalParam`,
      `*IllegalParamType`, the reflect / runtime panic, the plain lookup error — or the panic STRING for the classes
      of `isStrCls`, whose chain then is exactly `[str]`;
    * and the model's `walk` computes the same node. -/
theorem every_rejection_walks_to_its_typed_cause (r : Rej) (h : Produced r) :
    wellFormed r.chain = true ∧
    ∃ (g : GoErr) (e : ErrT), toGo r.chain = some g ∧ probeChain g = r.chain ∧
      erroWalk g = e ∧ walk r.chain = some e ∧ e ≠ .traceable ∧ typedEnd r.cls e = true ∧
      (isStrCls r.cls = true → r.chain = [.str]) := by
  have ⟨hw, e, hwalk, hne, hty, hstr⟩ := shape_sound r (produced_shape r h)
  have ⟨g, hg, hp⟩ := toGo_probeChain r.chain hw
  refine ⟨hw, g, e, hg, hp, ?_, hwalk, hne, hty, hstr⟩
  have := probe_walk_eq_model_walk g
  rw [hp, hwalk] at this
  exact (Option.some.inj this).symm

/-- non-vacuous: an interface callback with one parameter too many is `Produced`, its chain has three nodes, and the walk
    stops at `*IllegalParam` -/
example :
    let i : Ty := ⟨.int, 8, 25, false, 0⟩
    let c : Ty := ⟨.ptr, 8, idMockerICtx, false, 0⟩
    let r : Rej := ⟨.illegalParam, [.traceable, .illegalParam, .argsNotMatch 3 2]⟩
    Produced r ∧ walk r.chain = some .illegalParam := by
  refine ⟨Produced.iface .ptrIface "A" true ⟨[⟨.int, 8, 25, false, 0⟩], [⟨.int, 8, 25, false, 0⟩], false, default⟩
    (.apply (.fn ⟨[⟨.ptr, 8, idMockerICtx, false, 0⟩, ⟨.int, 8, 25, false, 0⟩, ⟨.int, 8, 25, false, 0⟩], [⟨.int, 8, 25, false, 0⟩], false, default⟩)) _ false rfl, rfl⟩

/-! ## `CauseBy`; the image of an unmocked target; wrong interface kinds under every action; an `As()` stub that does not fit -/

/-- erro/traceable.go:26 `CauseBy`, transcribed as `causeByDepth`: standing at a node of depth `d`, the loop recognises the node
    of depth `k` **iff** `k` is one of the leading `*TraceableError` nodes from here on (`d ≤ k < d + leadingTraceable chain`):
    every Traceable node of the walk is identified, nothing below the first non-Traceable node and nothing else is. -/
theorem causeBy_spec : ∀ (e : GoErr) (d k : Nat),
    causeByDepth e d k = true ↔ (d ≤ k ∧ k - d < leadingTraceable (probeChain e))
  | .leaf t, d, k => by
    by_cases ht : t = .traceable
    · subst ht; simp [causeByDepth, probeChain, leadingTraceable]; omega
    · simp [causeByDepth, probeChain, leadingTraceable_of_ne ht, ht]
  | .wrap t c, d, k => by
    have ih := causeBy_spec c (d + 1) k
    by_cases ht : t = .traceable
    · subst ht; simp [causeByDepth, probeChain, exposesCause, leadingTraceable, ih]; omega
    · -- the loop stops at once, and the listed chain starts with a node `CauseBy` cannot identify
      have h0 : leadingTraceable (probeChain (.wrap t c)) = 0 := by
        unfold probeChain; split <;> exact leadingTraceable_of_ne ht _
      simp [causeByDepth, ht, h0]

example : causeByDepth (.wrap .traceable (.wrap .illegalParam (.leaf (.argsNotMatch 3 2)))) 0 0 = true ∧
    causeByDepth (.wrap .traceable (.wrap .illegalParam (.leaf (.argsNotMatch 3 2)))) 0 1 = false := by decide

/-- "executable image unchanged" stated on `mocked`, not on the registry: if the target's entry is pristine, a rejected
    `Apply`/`Return`/`When` leaves the whole image exactly as it was — whatever the registry holds (e.g. the `applied` entry a
    `Reset` leaves behind: guard.go:36 then only re-writes the pristine bytes) -/
theorem rejected_unmocked_image_unchanged (g g' : G) (tg : Target) (cb : V) (o : OriginV) (repl : Nat) (e : Rej)
    (h : applyByFunc g tg cb o repl = (g', .error e)) (hm : mocked g tg.id = false) : g'.text = g.text ∧ g'.tramp = g.tramp := by
  obtain ⟨_, rfl | ⟨rfl, _⟩⟩ := applyByFunc_error h
  · exact ⟨rfl, rfl⟩
  · rw [registered_eq]
    refine ⟨funext fun x => ?_, unpatchValue_tramp _ _⟩
    by_cases hx : x = tg.id
    · -- the entry of the target is restored or left alone, and it was pristine
      subst hx
      have hnone : g.text tg.id = none := by simpa [mocked] using hm
      rcases unpatchValue_text_self g tg.id with h0 | h0
      · exact h0.trans hnone.symm
      · exact h0
    · exact unpatchValue_text_of_ne g hx

/-- **a non-pointer or non-interface handed to `Interface` is rejected for EVERY action** — `Apply`, `As(fn).Return`,
    `As(fn).When[.Return]` — and the variable is never replaced -/
theorem iface_kind_rejected_any_action (v : IfaceVar) (hv : v ≠ .ptrIface) (name : String) (found : Bool) (m : Sig)
    (act : IfaceAction) : ∃ e, ifaceCall v name found m act = (.error e, false) :=
  ifaceCall_rejects hv name found m act

/-- **an `As(fn)` stub that does not fit the interface method** (wrong parameter count after `*IContext`, wrong result count,
    a slot of another size) makes the first `Return` / `When` / `Returns` on that mocker fail, and the mocker, the variable
    and what the method dispatches to are exactly as before -/
theorem iface_as_misfit_rejected (m : Sig) (s : IS) (st : Step) (hw : s.when = none) (hvia : s.via = false)
    (hst : (∃ v, st = .ret v) ∨ (∃ a hit, st = .when_ a hit) ∨ (∃ gs, st = .returns gs))
    (hbad : ¬ (s.fn.ins.length = m.ins.length + 1 ∧ m.ins.map (·.size) = (s.fn.ins.drop 1).map (·.size) ∧
               m.outs.map (·.size) = s.fn.outs.map (·.size))) :
    ∃ e, ifaceSeqStep m s st = (s, .error e) := by
  have ⟨e, he⟩ : ∃ e, applyIface .ptrIface m (.fn s.fn) = .error e := by
    unfold applyIface
    dsimp only
    split
    · exact ⟨_, rfl⟩
    · split
      · exact ⟨_, rfl⟩
      · cases h : ifaceSignature m s.fn with
        | error e => exact ⟨e, rfl⟩
        | ok u => exact absurd ((ifaceSignature_ok_iff m s.fn).1 h) hbad
  have hfirst : ∀ st', ∃ e', ifaceFirst m s st' = (s, .error e') := by
    intro st'
    unfold ifaceFirst
    simp only
    split
    · exact ⟨_, rfl⟩
    · simp only [he]; exact ⟨_, rfl⟩
  rcases hst with ⟨v, rfl⟩ | ⟨a, hit, rfl⟩ | ⟨gs, rfl⟩
  all_goals
    simp only [ifaceSeqStep, hvia, Bool.false_and, Bool.false_eq_true, if_false, ifaceMainStep, hw]
    exact hfirst _

/-! ### the cause-chain clause at full strength, and what is proved of it -/

/-- a node that is an error VALUE of a type of package erro (not a panic string, not a reflect/runtime panic, not a wrapper) -/
def isTypedError : ErrT → Bool
  | .argsNotMatch _ _ | .returnsNotMatch _ _ | .illegalParamType => true
  | _ => false

/-- THE CLAUSE AS THE PROPERTY STATES IT: every rejected configuration call reports an error whose `erro.Cause` walk ends at a
    typed cause.  NOT true of the code as it is — `Findings/C13F.lean` refutes it on the model at two witnesses, recorded as
    known findings C13-K2 (string / reflect panics carry no error value) and C13-K3 (the walk stops at `*IllegalParam`). -/
def CauseClauseFull : Prop := ∀ r, Produced r → ∃ e, walk r.chain = some e ∧ isTypedError e = true

/-- the part that holds: whenever the rejection's class is one of the typed ones (`*ArgsNotMatch`, `*ReturnsNotMatch`,
    `*IllegalParamType` — too few condition arguments / return values on the first call, a non-`*IContext` first parameter,
    a pointer to a non-interface), the walk does end at that typed error.  Missing for the full clause: the classes of
    `isStrCls`, reflect/runtime panics, the interface-signature class (walk ends at `*IllegalParam`) and the by-name lookup. -/
theorem cause_clause_partial (r : Rej) (h : Produced r)
    (hc : r.cls = .argsNotMatch ∨ r.cls = .returnsNotMatch ∨ r.cls = .illegalParamType) :
    ∃ e, walk r.chain = some e ∧ isTypedError e = true := by
  have ⟨_, e, hw, _, hty, _⟩ := shape_sound r (produced_shape r h)
  refine ⟨e, hw, ?_⟩
  rcases hc with hc | hc | hc <;> rw [hc] at hty <;> cases e <;> first | rfl | cases hty

example : ∃ r, Produced r ∧ r.cls = .returnsNotMatch :=
  ⟨⟨.returnsNotMatch, [.returnsNotMatch 0 1]⟩,
   Produced.func G.init { id := 0, sig := ⟨[], [⟨.int, 8, 25, false, 0⟩], false, default⟩ } .orig .none 1 (.ret none) _ rfl, rfl⟩

/-! ## A first `Returns()` without values -/

/-- **a first `Returns()` with no value on a function or method WITH results is rejected** with the typed cause
    `*erro.ReturnsNotMatch(0, want)` — which is where the `erro.Cause` walk ends — and it leaves nothing behind: the image,
    the registry, the mocker (no `When` is kept) and what the entry jumps to are exactly as before. -/
theorem first_returns_empty_rejected (tg : Target) (isM : Bool) (repl : Nat) (ms : MS) (hw : ms.when = none)
    (h : 0 < tg.sig.outs.length) :
    seqStep tg isM repl ms (.returns []) = (ms, .error ⟨.returnsNotMatch, [.returnsNotMatch 0 tg.sig.outs.length]⟩) ∧
    walk [ErrT.returnsNotMatch 0 tg.sig.outs.length] = some (.returnsNotMatch 0 tg.sig.outs.length) := by
  have hc := (too_few_returns_rejected tg.sig none [] isM (by simpa using h)).1
  refine ⟨?_, rfl⟩
  simp [seqStep, hw, normFirst, seqFirst, createWS, firstReturnValues, hc, bind, Except.bind]

/-- in every case a first `Returns()` IS `Return()` (mocker.go `if len(values) == 0 { return m.Return() }`): on a
    result-less target it is therefore accepted, applied, and the empty default answers -/
theorem first_returns_empty_is_return (tg : Target) (isM : Bool) (repl : Nat) (ms : MS) (hw : ms.when = none) :
    seqStep tg isM repl ms (.returns []) = seqStep tg isM repl ms (.ret none) := by
  simp [seqStep, hw, normFirst]

example : (seqStep { id := 0, sig := ⟨[], [], false, default⟩ } false 1 ⟨G.init, none, .none⟩ (.returns [])).2 = .ok () := rfl

/-- the same for interface-method mockers (iface.go): with an `As` function that has results, a first `Returns()` is
    rejected with `*erro.ReturnsNotMatch` and the mocker and the variable are untouched -/
theorem iface_first_returns_empty_rejected (m : Sig) (s : IS) (hw : s.when = none) (hvia : s.via = false)
    (h : 0 < s.fn.outs.length) :
    ifaceSeqStep m s (.returns []) = (s, .error ⟨.returnsNotMatch, [.returnsNotMatch 0 s.fn.outs.length]⟩) := by
  have hc := (too_few_returns_rejected s.fn none [] true (by simpa using h)).1
  simp [ifaceSeqStep, hvia, ifaceMainStep, hw, normFirst, ifaceFirst, createWS, firstReturnValues, hc, bind, Except.bind]

/-- non-vacuous: `Func(f).Returns()` on `func(int) int` -/
example :
    let i : Ty := ⟨.int, 8, 25, false, 0⟩
    seqStep { id := 0, sig := ⟨[i], [i], false, i⟩ } false 1 ⟨G.init, none, .none⟩ (.returns []) =
      (⟨G.init, none, .none⟩, .error ⟨.returnsNotMatch, [.returnsNotMatch 0 1]⟩) :=
  (first_returns_empty_rejected _ _ _ _ rfl (by decide)).1

/-! ## Interface callbacks with several wrong-sized slots; symbol names that are only a suffix of a real one -/

/-- interface.go `checkSignature`: with the counts right, **however many slots have the wrong size** (one, two, all of them)
    the report is the same typed chain `TraceableError → *IllegalParam → *IllegalParamType` — the chain always ENDS in a typed
    cause, never in a text-only error -/
theorem iface_size_mismatch_typed (m cb : Sig) (h1 : cb.ins.length = m.ins.length + 1) (h2 : cb.outs.length = m.outs.length)
    (hbad : ¬ (m.ins.map (·.size) = (cb.ins.drop 1).map (·.size) ∧ m.outs.map (·.size) = cb.outs.map (·.size))) :
    ifaceSignature m cb = .error ⟨.illegalParam, [.traceable, .illegalParam, .illegalParamType]⟩ := by
  cases hr : ifaceSignature m cb with
  | ok u => exact absurd ((ifaceSignature_ok_iff m cb).1 hr).2 hbad
  | error e =>
    have hge : ¬ (m.ins.length ≥ cb.ins.length) := by omega
    unfold ifaceSignature at hr
    rw [if_neg hge, if_neg (by simpa using h1), if_neg (by simpa using h2)] at hr
    split at hr
    · simp [pure, Except.pure] at hr
    · simp only [rej, Except.error.injEq] at hr; rw [← hr]

/-- non-vacuous: both the parameter and the result have the wrong size -/
example :
    let i : Ty := ⟨.int, 8, 25, false, 0⟩
    let c : Ty := ⟨.ptr, 8, idMockerICtx, false, 0⟩
    ifaceSignature ⟨[i], [i], false, i⟩ ⟨[c, ⟨.int, 4, 27, false, 0⟩], [⟨.strct, 16, 39, false, 0⟩], false, i⟩ =
      .error ⟨.illegalParam, [.traceable, .illegalParam, .illegalParamType]⟩ := rfl

/-- func.go:60 / mocker.go:414: a symbol name is looked up EXACTLY; a name the table does not contain — also one that is a
    path suffix of a real symbol (`tencent/goom.f` for `github.com/tencent/goom.f`) — is `known = false` and is rejected on
    every route (Apply and As, functions and methods) -/
theorem unknown_symbol_rejected_all_routes (form : ExportForm) (asCall : Bool) :
    ∃ e, exportCall form false false asCall = .error e ∧ e.cls = .symbolNotFound := by
  cases form <;> cases asCall <;> exact ⟨_, rfl, rfl⟩

end C13
