import GoomVerif.Lemmas.C20L
import GoomVerif.Gen.JmpIfaceAmd64
import GoomVerif.Gen.JmpIfaceArm64
/-! C20 — executable stub space is never handed out twice or outside its reserve.
    Model: `Model/Stub.lean`; the expressions of `acquireFromHolder`/`init` are `Gen/StubHolder.lean`, regenerated from
    holder.go on every run.  Addresses are below 2^63 (user space); request lengths range over the whole Go `int` domain. -/
namespace C20
open Stub C20L Gen.StubHolder

/-- Clause "sequential requests … for all request sizes": in every sequential history of `Acquire(spaceLen int)` calls —
    ANY `int` lengths, negative ones included, the primary mmap path working or failing per request — every region
    handed out from the reserve lies inside `[min,max)`, regions are pairwise disjoint (each ends before the next one
    starts), every region (mmap or reserve) is at least as long as requested, and a reserve region is never the answer
    to a negative request.  (False for the code without the `len < 0` check: `Acquire(-8)` succeeds with `Len = -8` and
    moves the pointer BACK, so the next region overlaps an earlier one — defect F27.) -/
theorem seq_regions_in_reserve_sized_disjoint (off min max : Nat) (reqs : List (Int × Mmap))
    (h0 : min ≤ off) (h1 : off ≤ max) (h2 : max < 9223372036854775808) (hl : ∀ r ∈ reqs, r.1 < 9223372036854775808) :
    (∀ r ∈ holderRegions (runSeq off min max reqs), min ≤ r.1 ∧ r.1 + r.2 ≤ max) ∧
    (holderRegions (runSeq off min max reqs)).Pairwise disj ∧
    (∀ q ∈ runSeq off min max reqs, ∀ sp, q.2 = some sp → q.1 ≤ (sp.len : Int) ∧ (sp.typ = typeHolder → 0 ≤ q.1)) := by
  have I := seq_inv min max h2 reqs off h1 hl
  exact ⟨fun r hr => ⟨Nat.le_trans h0 (I.2.1 r hr).1, (I.2.1 r hr).2⟩, I.2.2.1.imp Or.inl, I.2.2.2⟩

example : holderRegions (runSeq 1000 1000 1100 [(40, .fail), (48, .fresh 7000), (0, .fail), (-8, .fail), (50, .fail), (20, .fail), (5, .fail)])
    = [(1000, 40), (1040, 0), (1040, 50), (1090, 5)] := by decide +kernel

/-- Clause "disjoint from every region returned before", across BOTH paths: in every sequential history all regions —
    mappings and reserve regions alike — are pairwise disjoint, provided the kernel behaves as an allocator: the
    mappings it grants (which goom never unmaps) are pairwise disjoint and do not cover the placeholder's text
    `[min,max)`.  That hypothesis is the environment assumption of this property; the probe checks it on every mapping
    it receives (sequentially and for concurrent callers of Acquire). -/
theorem seq_all_regions_disjoint (off min max : Nat) (reqs : List (Int × Mmap))
    (h0 : min ≤ off) (h1 : off ≤ max) (h2 : max < 9223372036854775808) (hl : ∀ r ∈ reqs, r.1 < 9223372036854775808)
    (hk : (kernelAnswers reqs).Pairwise disj) (ho : ∀ c ∈ kernelAnswers reqs, c.1 + c.2 ≤ min ∨ max ≤ c.1) :
    (allRegions (runSeq off min max reqs)).Pairwise disj := by
  have I := seq_inv min max h2 reqs off h1 hl
  refine ((allRegions_perm min max reqs off).pairwise_iff disj_symm).mpr
    (List.pairwise_append.mpr ⟨hk, I.2.2.1.imp Or.inl, fun c hc r hr => ?_⟩)
  -- a mapping lies outside the reserve, a reserve region inside
  have hr := I.2.1 r hr
  exact (ho c hc).imp (fun h => Nat.le_trans h (Nat.le_trans h0 hr.1)) (fun h => Nat.le_trans hr.2 h)

example : allRegions (runSeq 1000 1000 1100 [(40, .fail), (48, .fresh 7000), (0, .fail), (-8, .fail), (50, .fail), (48, .fresh 9000), (5, .fail)])
    = [(1000, 40), (7000, 48), (1040, 0), (1040, 50), (9000, 48), (1090, 5)] := by decide +kernel

/-- Clause "for all request sizes", the negative half on its own, for one caller whose mapping the kernel refuses: a
    negative length is refused — no region, the bump pointer does not move.  (Concurrent requesters: third part of
    `conc_regions_in_reserve_sized_disjoint`.) -/
theorem negative_length_is_refused (off min max : Nat) (r : Int) (hr : r < 0) :
    acquire .fail off min max r = (off, none) := by
  rw [acquire, acquireFromHolderI, if_pos (guard_of_neg hr)]

example : (acquire .fail 1048 1000 1100 (-8)) = (1048, none) := by decide +kernel

/-- Clause "exhaustion is reported as an error instead of overrunning the reserve" (one caller at a time): a request
    that does not fit behind the bump pointer is refused and leaves the pointer where it was; a request that is served
    gets exactly the bytes behind the pointer, which then advances by the length and stays inside the reserve; in a
    one-caller history started with the pointer inside the reserve it never passes `max`.  (Under concurrency the pointer
    itself may overshoot after a lost race — the regions still never do: `conc_regions_in_reserve_sized_disjoint`.) -/
theorem exhaustion_is_error_not_overrun (off min max : Nat) (r : Int) (h1 : off ≤ max) (h2 : max < 9223372036854775808)
    (h0 : 0 ≤ r) (hl : r < 9223372036854775808) :
    (max < off + r.toNat → acquire .fail off min max r = (off, none)) ∧
    (∀ o sp, acquire .fail off min max r = (o, some sp) →
        sp = ⟨off, r.toNat, typeHolder⟩ ∧ o = off + r.toNat ∧ off + r.toNat ≤ max) ∧
    (∀ reqs : List (Int × Mmap), (∀ q ∈ reqs, q.1 < 9223372036854775808) → offSeq off min max reqs ≤ max) := by
  have bounded := fun reqs hr => (seq_inv min max h2 reqs off h1 hr).1.2
  rcases acquire_fail off min max r h1 h2 hl with ⟨o, _, _, stay, e⟩ | ⟨_, hfit, e⟩
  · rw [e]
    exact ⟨fun h => by rw [stay h], nofun, bounded⟩
  · rw [e]
    refine ⟨fun h => absurd hfit (Nat.not_le_of_lt h), fun o sp hs => ?_, bounded⟩
    cases hs
    exact ⟨rfl, rfl, hfit⟩

example : (runSeq 1000 1000 1100 [(60, .fail), (60, .fail), (30, .fail), (20, .fail)]).map (·.2)
    = [some ⟨1000, 60, typeHolder⟩, none, some ⟨1060, 30, typeHolder⟩, none] := by decide +kernel

/-- Clause "concurrent requests never receive overlapping regions … regions stay inside the reserve": for EVERY
    schedule of the micro-steps (load, check, atomic add, check, return) of ANY number of concurrent requesters with ANY
    `int` lengths, every region returned lies inside `[min,max)`, is exactly as long as requested (so the request was
    not negative), any two regions returned to different requesters are disjoint, and every negative request ends in
    an error.  (`hB`: the number of requesters times the reserve size does not reach 2^63, so the 64-bit bump pointer
    cannot wrap; with a 12 KiB reserve that is ≈ 7·10^14 simultaneous requesters.) -/
theorem conc_regions_in_reserve_sized_disjoint (off min max : Nat) (reqs : List Int) (σ : List Nat)
    (h0 : min ≤ off) (h1 : off ≤ max) (hl : ∀ r ∈ reqs, r < 9223372036854775808)
    (hB : max + reqs.length * (max - min) < 9223372036854775808) :
    (∀ i a l, resultOf (run (initI off min max reqs) σ) i = some (.ok a l) →
        min ≤ a ∧ a + l ≤ max ∧ reqs[i]? = some (l : Int)) ∧
    (∀ i j a l a' l', i ≠ j → resultOf (run (initI off min max reqs) σ) i = some (.ok a l) →
        resultOf (run (initI off min max reqs) σ) j = some (.ok a' l') → disj (a, l) (a', l')) ∧
    (∀ i r, reqs[i]? = some r → r < 0 → resultOf (run (initI off min max reqs) σ) i = some .err) := by
  have R := run_results (inv_initI off min max reqs h0 h1 hl hB) σ
  -- a request refused by the argument check is finished from the start
  have refused : ∀ i r, reqs[i]? = some r → guardFails r = true →
      resultOf (run (initI off min max reqs) σ) i = some .err := by
    intro i r hr g
    have hf : Th.freshI r = ⟨.done, ulen r, 0, 0, some .err⟩ := by rw [Th.freshI, if_pos g]
    have h0 : (initI off min max reqs).th[i]? = some (Th.freshI r) := by rw [initI, List.getElem?_map, hr]; rfl
    rw [resultOf, (run_frame σ _).2.2.2 i _ h0 (by rw [hf]), hf]
    rfl
  refine ⟨fun i a l h => ?_, R.2, fun i r hr hneg => refused i r hr (guard_of_neg hneg)⟩
  · obtain ⟨ha, hb, hlen⟩ := R.1 i a l h
    rw [initI, List.getElem?_map, Option.map_map] at hlen
    obtain ⟨r, hr, hrl⟩ := Option.map_eq_some_iff.mp hlen
    refine ⟨ha, hb, ?_⟩
    cases g : guardFails r
    · have h0 := gen_guard_safe g
      rw [hr, ← hrl, Function.comp, freshI_len, (ulen_nonneg h0 (hl r (List.mem_of_getElem? hr))).1,
        Int.toNat_of_nonneg h0]
    · have := refused i r hr g
      rw [h] at this
      cases this

example : let s := run (initI 1000 1000 1100 [40, -8, 40, 40]) [0, 2, 3, 0, 2, 3, 2, 0, 3, 3, 3, 2, 2, 0, 0, 1]
    (resultOf s 0, resultOf s 1, resultOf s 2, resultOf s 3) =
      (some (.ok 1040 40), some .err, some (.ok 1000 40), some .err) := by decide +kernel

/-- Clause "primary path": when the kernel grants the anonymous RWX mapping, `Acquire` returns exactly that mapping
    with the requested length, marks it for plain-copy writes, and does not touch the reserve; when the kernel
    refuses, the request is served from the reserve (or refused) and marked for `memory.WriteTo`. No `Space` that
    `Acquire` returns is rejected by `Write`.  (`acquire` transcribes space.go:25; tools/genstub matches the Go text of
    `Acquire` and of the switch in `Write` literally on every run, and the `d<len>` probe lane runs the fallback for
    requests that fit.) -/
theorem mmap_dispatch (off min max : Nat) (r : Int) (mm : Mmap) :
    (∀ a, mm = .fresh a → acquire mm off min max r = (off, some ⟨a, r.toNat, typeMMap⟩) ∧ writeVia typeMMap = .copy) ∧
    (mm = .fail → ∀ o sp, acquire mm off min max r = (o, some sp) →
        sp.typ = typeHolder ∧ writeVia sp.typ = .writeTo ∧ acquireFromHolderI off min max r = (o, .ok sp.addr sp.len)) ∧
    (∀ o sp, acquire mm off min max r = (o, some sp) → writeVia sp.typ ≠ .illegal) := by
  refine ⟨fun a e => e ▸ ⟨rfl, rfl⟩, fun e o sp h => ?_, fun o sp h => ?_⟩
  · subst e
    have ⟨ht, hr⟩ := acquire_fail_some h
    exact ⟨ht, ht ▸ rfl, hr⟩
  · rcases acquire_some_typ h with ht | ht <;> rw [ht] <;> decide

/-- Clause "writable through the provided writer" + "disjoint": what `Write(s, data)` stores stays inside the region `s`
    (so writing one's own region can never change a neighbour's bytes), nothing of `data` is silently dropped, and data
    that fits the region is never refused.  (False for the code without the length check in `Write`: on the reserve
    path `memory.WriteTo(s.Addr, data)` stores all of `data` whatever the region length — 24 bytes into a 16-byte
    region overwrite the neighbour's first 8 — and on the mapping path `copy` drops the excess silently: defect F28.) -/
theorem write_confined (sp : Space) (dataLen : Nat) (ht : sp.typ = typeMMap ∨ sp.typ = typeHolder) :
    (∀ fp, writeFootprint sp dataLen = some fp →
        fp.1 = sp.addr ∧ fp.1 + fp.2 ≤ sp.addr + sp.len ∧ fp.2 = dataLen) ∧
    (dataLen ≤ sp.len → writeFootprint sp dataLen ≠ none) := by
  -- both writers store `dataLen` bytes at `sp.addr` when the data fits, and the guard refuses exactly when it does not
  have fits : dataLen ≤ sp.len → writeFootprint sp dataLen = some (sp.addr, dataLen) := by
    intro hle
    rw [writeFootprint, if_neg (by rw [gen_write_accepts hle]; nofun)]
    rcases ht with e | e <;> rw [e]
    · exact congrArg (fun n => some (sp.addr, n)) (Nat.min_eq_left hle)
    · rfl
  refine ⟨fun fp h => ?_, fun hle => by rw [fits hle]; nofun⟩
  cases g : writeRejects dataLen sp.len
  · have hle := gen_write_safe g
    rw [fits hle] at h
    cases h
    exact ⟨rfl, Nat.add_le_add_left hle _, rfl⟩
  · rw [writeFootprint, if_pos g] at h
    cases h

example : writeFootprint ⟨1000, 16, typeHolder⟩ 16 = some (1000, 16) ∧ writeFootprint ⟨1000, 16, typeHolder⟩ 24 = none ∧
    writeFootprint ⟨7000, 16, typeMMap⟩ 24 = none ∧ writeFootprint ⟨7000, 48, typeMMap⟩ 12 = some (7000, 12) := by decide +kernel

/-- Anchor make_method.go: the stub that `MakeMethodCaller`/`MakeMethodCallerWithCtx` write fits the region they
    request — for every target address, on amd64 (12 bytes) and on arm64 (24 bytes), the emitted jump is at most
    `interfaceJumpDataLen` long (the emitters are the regenerated `Gen.IfaceAmd64/IfaceArm64`, the constant and the
    fact that every `stub.Acquire` in package iface asks for it are re-extracted on every run). -/
theorem stub_fits_request (dx a b : BitVec 64) :
    (Gen.IfaceAmd64.jmpWithRdx dx).length ≤ interfaceJumpDataLen ∧
    (Gen.IfaceArm64.jmpWithRdx dx).length ≤ interfaceJumpDataLen ∧
    (Gen.IfaceArm64.jmpWithRdxAndCtx dx a b).length ≤ interfaceJumpDataLen := by
  -- amd64: 12 bytes; arm64: four `movImm` of 4 bytes each and two more instructions, 24 bytes
  have movImm (opc shift val : BitVec 64) : (Gen.IfaceArm64.movImm opc shift val).length = 4 := by
    simp only [Gen.IfaceArm64.movImm, List.length_set, List.length_replicate]
  refine ⟨?_, ?_, ?_⟩
  · simp only [Gen.IfaceAmd64.jmpWithRdx, List.length_cons, List.length_nil]; decide
  · simp only [Gen.IfaceArm64.jmpWithRdx, List.length_append, movImm, List.length_replicate, List.length_cons,
      List.length_nil]; decide
  · simp only [Gen.IfaceArm64.jmpWithRdxAndCtx, List.length_append, movImm, List.length_replicate, List.length_cons,
      List.length_nil]; decide

/-- Clause "writable through the provided writer" — for every write, not only the first: whatever `Space` `Acquire`
    returns (mapping or reserve), any number of successive `Write`s through it goes through, and each leaves the region
    in the protection it had when it was handed out (mapping: RWX, never sealed; reserve: R-X restored by
    memory.WriteTo, which re-opens it on the next call).
    The protection automaton `writeOnce` is a hand transcription of space.go:45 / mwrite_amd64.go:19, so this theorem is
    only as good as that transcription: its tie to the code is the `c20.writes` lane (n successive real writes compared
    with `writeN`) and the literal match of the switch in `Write` by tools/genstub. -/
theorem write_repeatable (off min max : Nat) (len : Int) (mm : Mmap) (o : Nat) (sp : Space)
    (h : acquire mm off min max len = (o, some sp)) (n : Nat) :
    writeN sp.typ (initPerm sp.typ) n = some (initPerm sp.typ) := by
  rcases acquire_some_typ h with ht | ht <;> rw [ht] <;> exact writeN_fixed rfl n

example : writeN typeMMap (initPerm typeMMap) 4 = some .rwx ∧ writeN typeHolder (initPerm typeHolder) 4 = some .rx ∧
    writeOnce typeMMap .rx = none := by decide +kernel

/-- Concurrent writers on the reserve path: neighbouring regions share a code page, and every writer runs
    lock / mprotect RWX / copy / mprotect R-X / unlock (memory.WriteTo).  For EVERY schedule of any number of writers no
    copy ever hits a page that is not writable — because the protection is restored before the lock is released.
    (`wstep` is a hand-written lock model; the statement order of memory.WriteTo is compared with it by C11's skeleton
    check, and the `c20.cwrite` lane runs real concurrent writers on shared pages.) -/
theorem conc_writers_never_fault (n : Nat) (σ : List Nat) : (wrun (winit n) σ).faulted = false :=
  (winv_run σ (winv_init n)).nofault

example : (wrun (winit 2) [0, 1, 0, 1, 0, 0, 1, 0, 1, 1, 1, 1, 1]).pcs = [.done, .done] := by decide +kernel

/-- The slice handed to the writer is the returned region: it starts at the returned address and its length and
    capacity are the requested length.  (Regression guard on the generated definitions; that `Write` stays inside the
    region is `write_confined`.) -/
theorem slice_is_region (p n l mi ma : Nat) :
    sliceData p n l mi ma = retAddr p n l mi ma ∧ sliceLen p n l mi ma = l ∧ sliceCap p n l mi ma = l :=
  ⟨gen_data, gen_len⟩

/-- `init()`: the reserve is exactly the scanned extent of the placeholder function, the pointer starts at its entry. -/
theorem init_reserve (offset size : Nat) (h : offset + size < 18446744073709551616) :
    initOff offset size = offset ∧ initMin offset size = offset ∧ initMax offset size = offset + size :=
  gen_init offset size h

/-- Trace validation is sound: a history of the real allocator that the executable `admits` accepts (some schedule of
    the model reproduces every observed result) has the property — observed regions inside the reserve, as long as
    requested, pairwise disjoint. -/
theorem admits_sound (h : Hist) (ha : admits h = true) :
    (∀ (i a l : Nat), h.res[i]? = some (some (.ok a l)) → h.min ≤ a ∧ a + l ≤ h.max ∧ h.lens[i]? = some l) ∧
    (∀ (i j a l a' l' : Nat), i ≠ j → h.res[i]? = some (some (.ok a l)) → h.res[j]? = some (some (.ok a' l')) →
        disj (a, l) (a', l')) :=
  have ⟨σ, wf, he⟩ := admits_explains ha
  sound_of_explains h σ wf he

/-- The same for a schedule proposed from outside (used for long histories, where the check constructs the
    candidate schedule itself and the driver only replays it on the model). -/
theorem explains_sound (h : Hist) (σ : List Nat) (hw : h.wellFormed = true) (he : explains h σ = true) :
    (∀ (i a l : Nat), h.res[i]? = some (some (.ok a l)) → h.min ≤ a ∧ a + l ≤ h.max ∧ h.lens[i]? = some l) ∧
    (∀ (i j a l a' l' : Nat), i ≠ j → h.res[i]? = some (some (.ok a l)) → h.res[j]? = some (some (.ok a' l')) →
        disj (a, l) (a', l')) :=
  sound_of_explains h σ hw he

example : admits ⟨1000, 1000, 1100, [40, 40, 40], [some (.ok 1040 40), some (.ok 1000 40), some .err],
    [.inv 0, .inv 1, .inv 2, .resp 1, .resp 0, .resp 2]⟩ = true := by decide +kernel

/-- and `admits` does reject: the same address handed out twice is not a behaviour of the model -/
example : admits ⟨1000, 1000, 1100, [40, 40], [some (.ok 1000 40), some (.ok 1000 40)],
    [.inv 0, .inv 1, .resp 1, .resp 0]⟩ = false := by decide +kernel

end C20
