import GoomVerif.Lemmas.C11L
/-!
# C11 note — instantiations of one generic function that share a GC shape are ONE patch location

`patch.unsafePatchValue` (internal/patch/patch.go) redirects a generic wrapper to its inner function
(`bytecode.GetInnerFunc`); `G[*A]` and `G[*B]` share that inner function, so two builders that mock "different functions"
`G[*A]` / `G[*B]` write the same location.  This is recorded as known finding **F28-c02-gcshape** by property C02; for C11 it
means such a pair of builders is outside the hypothesis `Conc.Disjoint` (targets must be disjoint as PATCH LOCATIONS), which the
theorem below makes explicit.  The C11 probe exercises generic targets of DISTINCT shapes only (locations 58, 59; possible in the `-race` build
because `GetInnerFunc` skips `runtime.*` callees such as `racefuncenter`).
-/
namespace C11Generic
open Conc

/-- two threads whose programs write one and the same location are never `Disjoint` -/
theorem shared_location_not_disjoint (L : Layout) (prog : Tid → List Sec) (t u : Tid) (f : Loc) (h : t ≠ u)
    (ht : Writes L prog t f) (hu : Writes L prog u f) : ¬ Disjoint L prog :=
  fun hd => hd t u f h hu ht.mentions

end C11Generic
