import GoomVerif.Model.Stub
/-! The generated expressions of `Gen.StubHolder` are unfolded only in the lemmas up to `gen_init`
    (checks/C20.py re-proves them against every regenerated file); everything after argues from these meanings. -/
namespace C20L
open Stub Gen.StubHolder


theorem wadd_eq {a b : Nat} (h : a + b < 18446744073709551616) : wadd a b = a + b :=
  Nat.mod_eq_of_lt h

theorem wsub_add {n b : Nat} (h : n + b < 18446744073709551616) : wsub (n + b) b = n := by
  have hb : b < 18446744073709551616 := Nat.lt_of_le_of_lt (Nat.le_add_left b n) h
  rw [wsub, Nat.mod_eq_of_lt hb, Nat.add_assoc, Nat.add_sub_of_le (Nat.le_of_lt hb), Nat.add_mod_right,
    Nat.mod_eq_of_lt (Nat.lt_of_le_of_lt (Nat.le_add_right n b) h)]

/-- Deliberately one-directional, like the other `_safe` lemmas: a more conservative comparison in holder.go still proves. -/
theorem gen_check1_safe {p l mi ma : Nat} (h : p + l < 18446744073709551616) :
    check1Fails p l mi ma = false → p + l ≤ ma := by
  intro hc
  unfold check1Fails at hc
  rw [wadd_eq h] at hc
  simp at hc
  omega

theorem gen_check1_refuses (p l mi ma : Nat) (h : p + l < 18446744073709551616) :
    ma < p + l → check1Fails p l mi ma = true :=
  fun hc => Bool.of_not_eq_false (Nat.not_le_of_lt hc ∘ gen_check1_safe h)

theorem gen_check2_safe {p n l mi ma : Nat} : check2Fails p n l mi ma = false → n ≤ ma := by
  intro hc
  unfold check2Fails at hc
  simp at hc
  omega

/-- Fails for the code without the argument check (negative `int` lengths wrap to huge uintptr values, pass both bound
    checks and move the bump pointer backwards). -/
theorem gen_guard_safe {r : Int} : guardFails r = false → 0 ≤ r := by
  intro h
  unfold guardFails at h
  simp at h
  omega

theorem guard_of_neg {r : Int} (hr : r < 0) : guardFails r = true :=
  Bool.of_not_eq_false fun g => Int.not_le.mpr hr (gen_guard_safe g)

theorem gen_write_safe {d l : Nat} : writeRejects d l = false → d ≤ l := by
  intro h
  unfold writeRejects at h
  simp at h
  omega

theorem gen_write_accepts {d l : Nat} : d ≤ l → writeRejects d l = false := by
  intro h
  unfold writeRejects
  simp
  omega

theorem gen_len {p n l mi ma : Nat} : sliceLen p n l mi ma = l ∧ sliceCap p n l mi ma = l :=
  ⟨rfl, rfl⟩

theorem gen_data {p n l mi ma : Nat} : sliceData p n l mi ma = retAddr p n l mi ma :=
  rfl

/-- without interference the loaded offset is where the add started, so either reading of the code gives it -/
theorem gen_ret_seq {off l mi ma : Nat} (h : off + l < 18446744073709551616) :
    retAddr off (off + l) l mi ma = off :=
  wsub_add h

/-- Fails for the code that returns the loaded offset (defect F12). -/
theorem gen_ret {p n l mi ma : Nat} (h1 : l ≤ n) (h2 : n < 18446744073709551616) :
    retAddr p n l mi ma = n - l := by
  have h := Nat.sub_add_cancel h1
  have := wsub_add (n := n - l) (b := l) (by rwa [h])
  rwa [h] at this

theorem gen_init (offset size : Nat) (h : offset + size < 18446744073709551616) :
    initOff offset size = offset ∧ initMin offset size = offset ∧ initMax offset size = offset + size := by
  unfold initOff initMin initMax wadd
  refine ⟨rfl, rfl, ?_⟩
  rw [Nat.mod_eq_of_lt (by omega)]; omega

theorem ulen_nonneg {r : Int} (h0 : 0 ≤ r) (h1 : r < 9223372036854775808) :
    ulen r = r.toNat ∧ r.toNat < 9223372036854775808 := by
  rw [ulen, Int.emod_eq_of_lt h0 (Int.lt_trans h1 (by decide))]
  exact ⟨rfl, (Int.toNat_lt h0).mpr h1⟩


-- The last case (error after the add, pointer moved) cannot occur with the generated `check2Fails`, but nothing is used of that
-- check beyond `gen_check2_safe`, so a more conservative one in holder.go still proves.
theorem acquireFromHolder_spec (off min max len : Nat) (h1 : off ≤ max) (h2 : max < 9223372036854775808)
    (hl : len < 9223372036854775808) :
    acquireFromHolder off min max len = (off, .err) ∨
      (off + len ≤ max ∧ (acquireFromHolder off min max len = (off + len, .ok off len) ∨
                          acquireFromHolder off min max len = (off + len, .err))) := by
  have hw : off + len < 18446744073709551616 := by omega
  unfold acquireFromHolder
  simp only [wadd_eq hw, gen_ret_seq hw, gen_len.1]
  cases c1 : check1Fails off len min max
  · refine Or.inr ⟨gen_check1_safe hw c1, ?_⟩
    cases check2Fails off (off + len) len min max
    · exact Or.inl rfl
    · exact Or.inr rfl
  · exact Or.inl rfl

theorem run_alone (off min max len : Nat) :
    let s := run (init off min max [len]) [0, 0, 0, 0, 0]
    (s.off, resultOf s 0) = ((acquireFromHolder off min max len).1, some (acquireFromHolder off min max len).2) := by
  simp only [run, init, List.foldl_cons, List.foldl_nil, List.map_cons, List.map_nil, Th.fresh]
  unfold acquireFromHolder
  by_cases c1 : check1Fails off len min max = true
  · simp [step, stepTh, c1, resultOf]
  · by_cases c2 : check2Fails off (wadd off len) len min max = true
    · simp [step, stepTh, c1, c2, resultOf]
    · simp [step, stepTh, c1, c2, resultOf]


theorem acquire_fail (off min max : Nat) (r : Int) (h1 : off ≤ max) (h2 : max < 9223372036854775808)
    (hl : r < 9223372036854775808) :
    (∃ o, off ≤ o ∧ o ≤ max ∧ (max < off + r.toNat → o = off) ∧ acquire .fail off min max r = (o, none)) ∨
    (0 ≤ r ∧ off + r.toNat ≤ max ∧
      acquire .fail off min max r = (off + r.toNat, some ⟨off, r.toNat, typeHolder⟩)) := by
  unfold acquire acquireFromHolderI
  cases g : guardFails r
  · have h0 := gen_guard_safe g
    have hu := ulen_nonneg h0 hl
    rw [hu.1]
    rcases acquireFromHolder_spec off min max r.toNat h1 h2 hu.2 with e | ⟨hfit, e | e⟩
    · exact Or.inl ⟨off, Nat.le_refl _, h1, fun _ => rfl, by rw [e]; rfl⟩
    · exact Or.inr ⟨h0, hfit, by rw [e]; rfl⟩
    · exact Or.inl ⟨off + r.toNat, Nat.le_add_right _ _, hfit, fun h => absurd hfit (Nat.not_le_of_lt h), by rw [e]; rfl⟩
  · exact Or.inl ⟨off, Nat.le_refl _, h1, fun _ => rfl, rfl⟩

theorem acquire_fail_some {off min max o : Nat} {r : Int} {sp : Space} (h : acquire .fail off min max r = (o, some sp)) :
    sp.typ = typeHolder ∧ acquireFromHolderI off min max r = (o, .ok sp.addr sp.len) := by
  simp only [acquire] at h
  split at h
  · next e => cases h; exact ⟨rfl, e⟩
  · cases h

theorem acquire_some_typ {mm : Mmap} {off min max o : Nat} {r : Int} {sp : Space}
    (h : acquire mm off min max r = (o, some sp)) : sp.typ = typeMMap ∨ sp.typ = typeHolder := by
  cases mm with
  | fresh a => cases h; exact Or.inl rfl
  | fail => exact Or.inr (acquire_fail_some h).1

theorem typ_ne : typeMMap ≠ typeHolder := by decide

theorem seq_inv (min max : Nat) (h2 : max < 9223372036854775808) :
    ∀ (reqs : List (Int × Mmap)) (off : Nat), off ≤ max → (∀ r ∈ reqs, r.1 < 9223372036854775808) →
      (off ≤ offSeq off min max reqs ∧ offSeq off min max reqs ≤ max) ∧
      (∀ r ∈ holderRegions (runSeq off min max reqs), off ≤ r.1 ∧ r.1 + r.2 ≤ max) ∧
      (holderRegions (runSeq off min max reqs)).Pairwise (fun a b => a.1 + a.2 ≤ b.1) ∧
      (∀ q ∈ runSeq off min max reqs, ∀ sp, q.2 = some sp → q.1 ≤ (sp.len : Int) ∧ (sp.typ = typeHolder → 0 ≤ q.1)) := by
  intro reqs
  induction reqs with
  | nil => exact fun off h1 _ => ⟨⟨Nat.le_refl _, h1⟩, nofun, .nil, nofun⟩
  | cons q rest ih =>
    intro off h1 hl
    obtain ⟨len, mm⟩ := q
    have ⟨hlen, hrest⟩ := List.forall_mem_cons.mp hl
    cases mm with
    | fresh a =>
      obtain ⟨hoff, hin, hord, hreq⟩ := ih off h1 hrest
      refine ⟨hoff, hin, hord, List.forall_mem_cons.mpr ⟨?_, hreq⟩⟩
      rintro _ ⟨⟩
      exact ⟨Int.self_le_toNat len, fun h => absurd h typ_ne⟩
    | fail =>
      rcases acquire_fail off min max len h1 h2 hlen with ⟨o, ho1, ho2, _, e⟩ | ⟨h0, hfit, e⟩
      · obtain ⟨hoff, hin, hord, hreq⟩ := ih o ho2 hrest
        simp only [offSeq, runSeq, e, holderRegions]
        exact ⟨⟨Nat.le_trans ho1 hoff.1, hoff.2⟩, fun r hr => ⟨Nat.le_trans ho1 (hin r hr).1, (hin r hr).2⟩,
          hord, List.forall_mem_cons.mpr ⟨nofun, hreq⟩⟩
      · obtain ⟨hoff, hin, hord, hreq⟩ := ih (off + len.toNat) hfit hrest
        have above : ∀ r ∈ holderRegions (runSeq (off + len.toNat) min max rest), off + len.toNat ≤ r.1 :=
          fun r hr => (hin r hr).1
        have hle : off ≤ off + len.toNat := Nat.le_add_right _ _
        simp only [offSeq, runSeq, e, holderRegions, if_true]
        refine ⟨⟨Nat.le_trans hle hoff.1, hoff.2⟩,
          List.forall_mem_cons.mpr ⟨⟨Nat.le_refl _, hfit⟩, fun r hr => ⟨Nat.le_trans hle (above r hr), (hin r hr).2⟩⟩,
          List.pairwise_cons.mpr ⟨above, hord⟩, List.forall_mem_cons.mpr ⟨?_, hreq⟩⟩
        rintro _ ⟨⟩
        exact ⟨Int.self_le_toNat len, fun _ => h0⟩

theorem allRegions_perm (min max : Nat) : ∀ (reqs : List (Int × Mmap)) (off : Nat),
    (allRegions (runSeq off min max reqs)).Perm (kernelAnswers reqs ++ holderRegions (runSeq off min max reqs))
  | [], _ => .nil
  | (len, .fresh a) :: rest, off => (allRegions_perm min max rest off).cons (a, len.toNat)
  | (len, .fail) :: rest, off => by
    cases e : acquire .fail off min max len with
    | mk o res =>
      have IH := allRegions_perm min max rest o
      cases res with
      | none => simpa only [runSeq, e, allRegions, holderRegions, kernelAnswers] using IH
      | some sp =>
        simp only [runSeq, e, allRegions, holderRegions, kernelAnswers, (acquire_fail_some e).1, if_true]
        exact (IH.cons _).trans List.perm_middle.symm


/-- the region a requester owns: from its atomic add on, `[newOffset - len, newOffset)`; after returning, its result -/
def claim (t : Th) : Option (Nat × Nat) :=
  match t.pc with
  | .check2 => some (t.new - t.len, t.len)
  | .ret => some (t.new - t.len, t.len)
  | .done => match t.res with
    | some (.ok a l) => some (a, l)
    | _ => none
  | _ => none

/-- What is known of a requester's locals at each program counter, relative to the current `off` (which only grows, hence the
    bounds `≤ off`).  The length bound is void at `done`: a request refused by the argument check starts there with the
    wrapped length `ulen r` of a negative `r` (`Th.freshI`). -/
def thOk (off min max : Nat) (t : Th) : Prop :=
  (t.pc = .done ∨ t.len < 9223372036854775808) ∧
  match t.pc with
  | .load => t.res = none
  | .check1 => t.res = none ∧ min ≤ t.loaded ∧ t.loaded ≤ off
  | .add => t.res = none ∧ min ≤ t.loaded ∧ t.loaded ≤ off ∧ t.loaded + t.len ≤ max
  | .check2 => t.res = none ∧ min + t.len ≤ t.new ∧ t.new ≤ off
  | .ret => t.res = none ∧ min + t.len ≤ t.new ∧ t.new ≤ off ∧ t.new ≤ max
  | .done => t.res = some .err ∨ ∃ a, t.res = some (.ok a t.len) ∧ min ≤ a ∧ a + t.len ≤ off ∧ a + t.len ≤ max

/-- potential: how far `off` can still be pushed by requesters that have not added yet (each by at most `d`) -/
def weight (d : Nat) (t : Th) : Nat :=
  match t.pc with
  | .load => d
  | .check1 => d
  | .add => d
  | _ => 0

def pot (d : Nat) : List Th → Nat
  | [] => 0
  | t :: ts => weight d t + pot d ts

/-- `off` may pass `max` (a requester that passed check1 adds whatever the others added meanwhile) but never `B`, and
    `B < 2^63` is what keeps every `wadd` from wrapping -/
structure Inv (B : Nat) (s : St) : Prop where
  hB : B < 9223372036854775808
  hmm : s.min ≤ s.max
  hmo : s.min ≤ s.off
  hpot : s.off + pot (s.max - s.min) s.th ≤ B
  hth : ∀ (i : Nat) (t : Th), s.th[i]? = some t → thOk s.off s.min s.max t
  hdisj : ∀ (i j : Nat) (ti tj : Th) (ci cj : Nat × Nat), i ≠ j → s.th[i]? = some ti → s.th[j]? = some tj →
            claim ti = some ci → claim tj = some cj → disj ci cj

theorem getElem?_set_of_some {α : Type} {l : List α} {i : Nat} {a : α} (h : l[i]? = some a) (b : α) (k : Nat) :
    (l.set i b)[k]? = if i = k then some b else l[k]? := by
  rw [List.getElem?_set, if_pos (List.getElem?_eq_some_iff.mp h).1]

theorem disj_symm {c c' : Nat × Nat} (h : disj c c') : disj c' c := Or.symm h

theorem sub_bounds {min len new off : Nat} (h1 : min + len ≤ new) (h2 : new ≤ off) :
    min ≤ new - len ∧ new - len + len ≤ off :=
  ⟨Nat.le_sub_of_add_le h1, by rw [Nat.sub_add_cancel (Nat.le_trans (Nat.le_add_left len min) h1)]; exact h2⟩

theorem thOk_facts {off min max : Nat} {t : Th} (ok : thOk off min max t) :
    (∀ off', off ≤ off' → thOk off' min max t) ∧
    (∀ c, claim t = some c → min ≤ c.1 ∧ c.1 + c.2 ≤ off) ∧
    (∀ a l, t.res = some (.ok a l) → claim t = some (a, l) ∧ t.len = l ∧ a + l ≤ max) := by
  obtain ⟨pc, len, loaded, new, res⟩ := t
  obtain ⟨hl, ok⟩ := ok
  dsimp only at ok
  cases pc
  case load =>
    subst ok
    exact ⟨fun _ _ => ⟨hl, rfl⟩, nofun, nofun⟩
  case check1 =>
    obtain ⟨rfl, hmin, hle⟩ := ok
    exact ⟨fun _ h => ⟨hl, rfl, hmin, Nat.le_trans hle h⟩, nofun, nofun⟩
  case add =>
    obtain ⟨rfl, hmin, hle, hfit⟩ := ok
    exact ⟨fun _ h => ⟨hl, rfl, hmin, Nat.le_trans hle h, hfit⟩, nofun, nofun⟩
  case check2 =>
    obtain ⟨rfl, hlo, hhi⟩ := ok
    exact ⟨fun _ h => ⟨hl, rfl, hlo, Nat.le_trans hhi h⟩, fun _ hc => by cases hc; exact sub_bounds hlo hhi, nofun⟩
  case ret =>
    obtain ⟨rfl, hlo, hhi, hmax⟩ := ok
    exact ⟨fun _ h => ⟨hl, rfl, hlo, Nat.le_trans hhi h, hmax⟩, fun _ hc => by cases hc; exact sub_bounds hlo hhi,
      nofun⟩
  case done =>
    rcases ok with rfl | ⟨a, rfl, h1, h2, h3⟩
    · exact ⟨fun _ _ => ⟨hl, Or.inl rfl⟩, nofun, nofun⟩
    · exact ⟨fun _ h => ⟨hl, Or.inr ⟨a, rfl, h1, Nat.le_trans h2 h, h3⟩⟩, fun _ hc => by cases hc; exact ⟨h1, h2⟩,
        fun _ _ hr => by cases hr; exact ⟨rfl, rfl, h3⟩⟩

theorem pot_split (d : Nat) {t : Th} : ∀ {l : List Th} {i : Nat}, l[i]? = some t →
    ∃ r, pot d l = weight d t + r ∧ ∀ t', pot d (l.set i t') = weight d t' + r
  | x :: xs, 0, h => by cases h; exact ⟨pot d xs, rfl, fun _ => rfl⟩
  | x :: xs, k + 1, h => by
    obtain ⟨r, hp, hs⟩ := pot_split d (l := xs) (i := k) h
    exact ⟨weight d x + r, by rw [pot, hp, Nat.add_left_comm],
      fun t' => by rw [List.set_cons_succ, pot, hs, Nat.add_left_comm]⟩

theorem add_lt_word {a b : Nat} (ha : a < 9223372036854775808) (hb : b < 9223372036854775808) :
    a + b < 18446744073709551616 :=
  Nat.add_lt_add ha hb

theorem stepTh_facts {off min max : Nat} {t : Th} (hmo : min ≤ off) (hoff : off < 9223372036854775808)
    (ok : thOk off min max t) :
    off ≤ (stepTh off min max t).1 ∧
    (stepTh off min max t).1 + weight (max - min) (stepTh off min max t).2 ≤ off + weight (max - min) t ∧
    thOk (stepTh off min max t).1 min max (stepTh off min max t).2 ∧
    (∀ c, claim (stepTh off min max t).2 = some c → claim t = some c ∨ off ≤ c.1) := by
  obtain ⟨pc, len, loaded, new, res⟩ := t
  obtain ⟨hl, ok⟩ := ok
  dsimp only at hl ok
  cases pc
  case load =>
    exact ⟨Nat.le_refl _, Nat.le_refl _, ⟨Or.inr (hl.resolve_left nofun), ok, hmo, Nat.le_refl _⟩, nofun⟩
  case check1 =>
    obtain ⟨hres, hmin, hle⟩ := ok
    have hlen := hl.resolve_left nofun
    dsimp only [stepTh]
    cases c1 : check1Fails loaded len min max
    · have hfit := gen_check1_safe (add_lt_word (Nat.lt_of_le_of_lt hle hoff) hlen) c1
      exact ⟨Nat.le_refl _, Nat.le_refl _, ⟨Or.inr hlen, hres, hmin, hle, hfit⟩, nofun⟩
    · exact ⟨Nat.le_refl _, Nat.add_le_add_left (Nat.zero_le _) off, ⟨Or.inl rfl, Or.inl rfl⟩, nofun⟩
  case add =>
    obtain ⟨hres, hmin, _, hfit⟩ := ok
    have hlen := hl.resolve_left nofun
    -- the request fitted behind an offset loaded inside the reserve, so it is no longer than the reserve
    have room : len ≤ max - min :=
      Nat.le_sub_of_add_le (Nat.le_trans (Nat.add_le_add_left hmin len) (Nat.add_comm loaded len ▸ hfit))
    dsimp only [stepTh]
    rw [wadd_eq (add_lt_word hoff hlen)]
    refine ⟨Nat.le_add_right _ _, Nat.add_le_add_left room off,
      ⟨Or.inr hlen, hres, Nat.add_le_add_right hmo len, Nat.le_refl _⟩, fun c hc => Or.inr ?_⟩
    cases hc
    exact Nat.le_of_eq (Nat.add_sub_cancel off len).symm
  case check2 =>
    obtain ⟨hres, hlo, hhi⟩ := ok
    dsimp only [stepTh]
    cases c2 : check2Fails loaded new len min max
    · exact ⟨Nat.le_refl _, Nat.le_refl _,
        ⟨Or.inr (hl.resolve_left nofun), hres, hlo, hhi, gen_check2_safe c2⟩, fun _ hc => Or.inl hc⟩
    · exact ⟨Nat.le_refl _, Nat.le_refl _, ⟨Or.inl rfl, Or.inl rfl⟩, nofun⟩
  case ret =>
    obtain ⟨_, hlo, hhi, hmax⟩ := ok
    have hle : len ≤ new := Nat.le_trans (Nat.le_add_left len min) hlo
    have hnew : new < 18446744073709551616 := Nat.lt_trans (Nat.lt_of_le_of_lt hhi hoff) (by decide)
    dsimp only [stepTh]
    rw [gen_ret hle hnew, gen_len.1]
    have ⟨h1, h2⟩ := sub_bounds hlo hhi
    exact ⟨Nat.le_refl _, Nat.le_refl _,
      ⟨Or.inl rfl, Or.inr ⟨new - len, rfl, h1, h2, (sub_bounds hlo hmax).2⟩⟩, fun _ hc => Or.inl hc⟩
  case done =>
    exact ⟨Nat.le_refl _, Nat.le_refl _, ⟨hl, ok⟩, fun _ hc => Or.inl hc⟩

theorem inv_step {B : Nat} {s : St} (inv : Inv B s) (i : Nat) : Inv B (step s i) := by
  unfold step
  cases h : s.th[i]? with
  | none => exact inv
  | some t =>
    have hoff : s.off < 9223372036854775808 :=
      Nat.lt_of_le_of_lt (Nat.le_trans (Nat.le_add_right _ _) inv.hpot) inv.hB
    obtain ⟨Fa, Fb, Fc, Fd⟩ := stepTh_facts inv.hmo hoff (inv.hth i t h)
    have get := getElem?_set_of_some h (stepTh s.off s.min s.max t).2
    -- the stepping requester's claim against another requester's: an old claim, or one behind every old claim
    have fresh : ∀ k tk c ck, i ≠ k → s.th[k]? = some tk → claim (stepTh s.off s.min s.max t).2 = some c →
        claim tk = some ck → disj c ck := by
      intro k tk c ck hik hk hc hck
      rcases Fd c hc with old | new
      · exact inv.hdisj i k t tk c ck hik h hk old hck
      · exact Or.inr (Nat.le_trans ((thOk_facts (inv.hth k tk hk)).2.1 ck hck).2 new)
    refine ⟨inv.hB, inv.hmm, Nat.le_trans inv.hmo Fa, ?_, ?_, ?_⟩
    · obtain ⟨r, hp, hs⟩ := pot_split (s.max - s.min) h
      have hpot := inv.hpot
      rw [hp, ← Nat.add_assoc] at hpot
      show _ + pot _ (s.th.set i _) ≤ B
      rw [hs, ← Nat.add_assoc]
      exact Nat.le_trans (Nat.add_le_add_right Fb r) hpot
    · intro k tk hk
      rw [get] at hk
      split at hk
      · cases hk; exact Fc
      · exact (thOk_facts (inv.hth k tk hk)).1 _ Fa
    · intro j k tj tk cj ck hjk hj hk hcj hck
      rw [get] at hj hk
      by_cases ej : i = j
      · rw [if_pos ej] at hj; rw [if_neg (ej ▸ hjk)] at hk
        cases hj
        exact fresh k tk cj ck (ej ▸ hjk) hk hcj hck
      · rw [if_neg ej] at hj
        by_cases ek : i = k
        · rw [if_pos ek] at hk
          cases hk
          exact disj_symm (fresh j tj ck cj ej hj hck hcj)
        · rw [if_neg ek] at hk
          exact inv.hdisj j k tj tk cj ck hjk hj hk hcj hck

theorem inv_run {B : Nat} : ∀ (σ : List Nat) {s : St}, Inv B s → Inv B (run s σ)
  | [], _, inv => inv
  | i :: σ, _, inv => inv_run σ (inv_step inv i)

theorem pot_le (d : Nat) : ∀ l : List Th, pot d l ≤ l.length * d
  | [] => Nat.zero_le _
  | t :: ts => by
    have : weight d t ≤ d := by
      unfold weight
      split
      · exact Nat.le_refl d
      · exact Nat.le_refl d
      · exact Nat.le_refl d
      · exact Nat.zero_le d
    rw [pot, List.length_cons, Nat.succ_mul, Nat.add_comm]
    exact Nat.add_le_add (pot_le d ts) this

theorem inv_start {off min max n : Nat} {ths : List Th} (hn : ths.length = n) (h1 : min ≤ off) (h2 : off ≤ max)
    (hB : max + n * (max - min) < 9223372036854775808) (h : ∀ t ∈ ths, thOk off min max t ∧ claim t = none) :
    Inv (max + n * (max - min)) ⟨off, min, max, ths⟩ :=
  ⟨hB, Nat.le_trans h1 h2, h1, Nat.add_le_add h2 (hn ▸ pot_le (max - min) ths),
    fun _ t hi => (h t (List.mem_of_getElem? hi)).1,
    fun _ _ ti _ _ _ _ hi _ hci _ => by rw [(h ti (List.mem_of_getElem? hi)).2] at hci; cases hci⟩

theorem inv_init (off min max : Nat) (lens : List Nat) (h1 : min ≤ off) (h2 : off ≤ max)
    (hl : ∀ l ∈ lens, l < 9223372036854775808)
    (hB : max + lens.length * (max - min) < 9223372036854775808) :
    Inv (max + lens.length * (max - min)) (init off min max lens) :=
  inv_start (List.length_map _) h1 h2 hB (List.forall_mem_map.mpr fun l hm => ⟨⟨Or.inr (hl l hm), rfl⟩, rfl⟩)


theorem stepTh_len {off min max : Nat} (t : Th) : (stepTh off min max t).2.len = t.len := by
  unfold stepTh
  cases t.pc <;> simp only
  · split <;> rfl
  · split <;> rfl

theorem th_step (s : St) (i k : Nat) : (step s i).th[k]? =
    if i = k then (s.th[k]?).map (fun t => (stepTh s.off s.min s.max t).2) else s.th[k]? := by
  rw [step]
  by_cases e : i = k
  · subst e
    rw [if_pos rfl]
    split
    · next h => rw [h]; rfl
    · next t h => rw [h, getElem?_set_of_some h, if_pos rfl]; rfl
  · rw [if_neg e]
    split
    · rfl
    · exact List.getElem?_set_ne e

theorem run_frame (σ : List Nat) : ∀ s : St,
    (run s σ).min = s.min ∧ (run s σ).max = s.max ∧
    (∀ k : Nat, ((run s σ).th[k]?).map Th.len = (s.th[k]?).map Th.len) ∧
    (∀ (k : Nat) (t : Th), s.th[k]? = some t → t.pc = .done → (run s σ).th[k]? = some t) := by
  induction σ with
  | nil => exact fun s => ⟨rfl, rfl, fun _ => rfl, fun _ _ h _ => h⟩
  | cons i σ ih =>
    intro s
    have ⟨h1, h2, h3, h4⟩ := ih (step s i)
    have hm : (step s i).min = s.min ∧ (step s i).max = s.max := by unfold step; split <;> exact ⟨rfl, rfl⟩
    refine ⟨h1.trans hm.1, h2.trans hm.2, fun k => (h3 k).trans ?_, fun k t h hd => h4 k t ?_ hd⟩
    · rw [th_step]
      split
      · rw [Option.map_map]; congr 1; exact funext stepTh_len
      · rfl
    · rw [th_step, h]
      split
      · simp only [Option.map_some, stepTh, hd]
      · rfl

theorem run_results {B : Nat} {s : St} (inv : Inv B s) (σ : List Nat) :
    (∀ i a l, resultOf (run s σ) i = some (.ok a l) → s.min ≤ a ∧ a + l ≤ s.max ∧ (s.th[i]?).map Th.len = some l) ∧
    (∀ i j a l a' l', i ≠ j → resultOf (run s σ) i = some (.ok a l) → resultOf (run s σ) j = some (.ok a' l') →
        disj (a, l) (a', l')) := by
  have inv' := inv_run σ inv
  have fr := run_frame σ s
  have get : ∀ {i a l}, resultOf (run s σ) i = some (.ok a l) → ∃ t, (run s σ).th[i]? = some t ∧
      claim t = some (a, l) ∧ t.len = l ∧ s.min ≤ a ∧ a + l ≤ s.max := fun h =>
    have ⟨t, ht, hr⟩ := Option.bind_eq_some_iff.mp h
    have ⟨_, hc, hres⟩ := thOk_facts (inv'.hth _ t ht)
    have ⟨hcl, hlen, hmax⟩ := hres _ _ hr
    ⟨t, ht, hcl, hlen, fr.1 ▸ (hc _ hcl).1, fr.2.1 ▸ hmax⟩
  constructor
  · intro i a l h
    obtain ⟨t, ht, _, hlen, hb⟩ := get h
    exact ⟨hb.1, hb.2, by rw [← fr.2.2.1, ht, Option.map_some, hlen]⟩
  · intro i j a l a' l' hij hi hj
    obtain ⟨ti, hti, hci, _⟩ := get hi
    obtain ⟨tj, htj, hcj, _⟩ := get hj
    exact inv'.hdisj i j ti tj (a, l) (a', l') hij hti htj hci hcj


theorem freshI_len (r : Int) : (Th.freshI r).len = ulen r := by
  unfold Th.freshI; split <;> rfl

theorem inv_initI (off min max : Nat) (reqs : List Int) (h1 : min ≤ off) (h2 : off ≤ max)
    (hl : ∀ r ∈ reqs, r < 9223372036854775808)
    (hB : max + reqs.length * (max - min) < 9223372036854775808) :
    Inv (max + reqs.length * (max - min)) (initI off min max reqs) := by
  refine inv_start (List.length_map _) h1 h2 hB (List.forall_mem_map.mpr fun r hm => ?_)
  unfold Th.freshI
  cases g : guardFails r
  · have hu := ulen_nonneg (gen_guard_safe g) (hl r hm)
    exact ⟨⟨Or.inr (hu.1 ▸ hu.2), rfl⟩, rfl⟩
  · exact ⟨⟨Or.inl rfl, Or.inl rfl⟩, rfl⟩

theorem sound_of_explains (h : Hist) (σ : List Nat) (wf : h.wellFormed = true) (hw : explains h σ = true) :
    (∀ (i a l : Nat), h.res[i]? = some (some (Res.ok a l)) → h.min ≤ a ∧ a + l ≤ h.max ∧ h.lens[i]? = some l) ∧
    (∀ (i j a l a' l' : Nat), i ≠ j → h.res[i]? = some (some (Res.ok a l)) → h.res[j]? = some (some (Res.ok a' l')) →
        disj (a, l) (a', l')) := by
  unfold Hist.wellFormed at wf
  simp only [Bool.and_eq_true, decide_eq_true_eq, List.all_eq_true] at wf
  obtain ⟨⟨⟨⟨h0, h1⟩, hl⟩, hB⟩, hlen⟩ := wf
  unfold explains at hw
  simp only [List.all_eq_true, List.mem_range, beq_iff_eq] at hw
  have R := run_results (inv_init h.off h.min h.max h.lens h0 h1 hl hB) σ
  have tr : ∀ {i a l}, h.res[i]? = some (some (Res.ok a l)) →
      resultOf (run (init h.off h.min h.max h.lens) σ) i = some (Res.ok a l) := by
    intro i a l hi
    rw [hw i (hlen ▸ (List.getElem?_eq_some_iff.mp hi).1), hi]; rfl
  refine ⟨fun i a l hi => ?_, fun i j a l a' l' hij hi hj => R.2 i j a l a' l' hij (tr hi) (tr hj)⟩
  obtain ⟨ha, hb, hl'⟩ := R.1 i a l (tr hi)
  rw [init, List.getElem?_map, Option.map_map] at hl'
  exact ⟨ha, hb, by rw [← hl']; exact Option.map_id'.symm⟩

theorem admits_explains {h : Hist} (ha : admits h = true) : ∃ σ, h.wellFormed = true ∧ explains h σ = true := by
  unfold admits at ha
  obtain ⟨wf, hw⟩ := Bool.and_eq_true_iff.mp ha
  split at hw
  · cases hw
  · next σ _ => exact ⟨σ, wf, hw⟩


theorem writeN_fixed {typ : Nat} {p : Perm} (h : writeOnce typ p = some p) : ∀ n, writeN typ p n = some p
  | 0 => rfl
  | n + 1 => by rw [writeN, h]; exact writeN_fixed h n

/-- holding `memoryAccessLock`: from the step after `Lock()` up to and including the pending deferred `Unlock()` -/
def critical : WPc → Bool
  | .unprotect => true
  | .copy => true
  | .reprotect => true
  | .unlock => true
  | _ => false

structure WInv (s : WSt) : Prop where
  nofault : s.faulted = false
  mutex : ∀ (i : Nat) (pc : WPc), s.pcs[i]? = some pc → critical pc = true → s.holder = some i
  writable : ∀ (i : Nat), s.pcs[i]? = some .copy → s.perm = .rwx

theorem WInv.move {s : WSt} (inv : WInv s) {i : Nat} {pc pc' : WPc} (h : s.pcs[i]? = some pc)
    {holder' : Option Nat} {perm' : Perm} {faulted' : Bool} (nofault : faulted' = false)
    (others : ∀ k, k ≠ i → s.holder = some k → holder' = some k)
    (own : critical pc' = true → holder' = some i)
    (mine : pc' = .copy → perm' = .rwx)
    (theirs : ∀ k, k ≠ i → s.pcs[k]? = some .copy → perm' = .rwx) :
    WInv ⟨holder', perm', faulted', s.pcs.set i pc'⟩ := by
  have get := getElem?_set_of_some h pc'
  refine ⟨nofault, fun k pck hk hc => ?_, fun k hk => ?_⟩
  · rw [get] at hk
    split at hk
    · next e => cases hk; exact e ▸ own hc
    · next e => exact others k (Ne.symm e) (inv.mutex k pck hk hc)
  · rw [get] at hk
    split at hk
    · cases hk; exact mine rfl
    · next e => exact theirs k (Ne.symm e) hk

theorem winv_step {s : WSt} (inv : WInv s) (i : Nat) : WInv (wstep s i) := by
  unfold wstep
  cases h : s.pcs[i]? with
  | none => exact inv
  | some pc =>
    have holds : critical pc = true → s.holder = some i := inv.mutex i pc h
    -- another writer in its critical section would hold the lock that `i` holds
    have alone : critical pc = true → ∀ k, k ≠ i → s.holder ≠ some k := fun hc k hki hk =>
      hki (Option.some.inj (hk.symm.trans (holds hc)))
    cases pc with
    | lock =>
      dsimp only
      split
      · next free =>
        exact inv.move h inv.nofault (fun k _ hk => by rw [free] at hk; cases hk) (fun _ => rfl) nofun
          (fun k _ hk => inv.writable k hk)
      · exact inv
    | unprotect => exact inv.move h inv.nofault (fun _ _ hk => hk) (fun _ => holds rfl) (fun _ => rfl) (fun _ _ _ => rfl)
    | copy =>
      refine inv.move h ?_ (fun _ _ hk => hk) (fun _ => holds rfl) nofun (fun k _ hk => inv.writable k hk)
      rw [inv.nofault, inv.writable i h]; rfl
    | reprotect =>
      exact inv.move h inv.nofault (fun _ _ hk => hk) (fun _ => holds rfl) nofun
        (fun k hki hk => absurd (inv.mutex k .copy hk rfl) (alone rfl k hki))
    | unlock =>
      exact inv.move h inv.nofault (fun k hki hk => absurd hk (alone rfl k hki)) nofun nofun
        (fun k _ hk => inv.writable k hk)
    | done => exact inv

theorem winv_run : ∀ (σ : List Nat) {s : WSt}, WInv s → WInv (wrun s σ)
  | [], _, inv => inv
  | i :: σ, _, inv => winv_run σ (winv_step inv i)

theorem winv_init (n : Nat) : WInv (winit n) :=
  ⟨rfl, fun _ _ h hc => (by cases List.eq_of_mem_replicate (List.mem_of_getElem? h); cases hc),
    fun _ h => (by cases List.eq_of_mem_replicate (List.mem_of_getElem? h))⟩

end C20L
