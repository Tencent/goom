import GoomVerif.Props.C04
/-! Findings F27-c04-first-when-variadic and F28-c04-in-bare-nonslice (property C04, repaired by the fix diffs of the
same names).  The model transcribes the repaired code; the two definitions below transcribe what the unrepaired code
did, with a witness each.  Not obligations.

* F27: `checkParams` (when.go:78) demanded `len(args) >= NumIn` of the *first* `When`, counting the variadic slot, so
  `mock.Func(f).When(1).Return(5)` on `f(a int, xs ...int)` — "when called as `f(1)`" — panicked "args length not
  match", while the very same `When(1)` was accepted as a second clause.
* F28: `InExpr.Resolve` (arg/expr.go:76) expanded *every* non-`[]interface{}` alternative at index `>= len(types)-1`
  of a variadic function through `reflect.Value.Len/Index`: `In(5, 6)` on `f(a int, xs ...int)` panicked in reflect at
  the second alternative, and `In("ab")` on `f(xs ...interface{})` silently registered the two bytes `'a','b'`
  (so `f("ab")` did not match and `f('a','b')` did). -/
namespace C04
open When

/-- the unrepaired argument-count test of `checkParams` -/
def checkArgsOld (sig : Sig) (n : Nat) : Bool := !(n < sig.nIn)

/-- `f(a int, xs ...int)`: one expression is a well-formed condition, the old test refused it as a first clause -/
theorem f27_unrepaired_rejects :
    arityOk { nIn := 2, variadic := true, isMethod := false, numOut := 1 } 1 ∧
    checkArgsOld { nIn := 2, variadic := true, isMethod := false, numOut := 1 } 1 = false := by
  constructor
  · simp [arityOk]
  · rfl

/-- what the unrepaired `InExpr.Resolve` did with a bare alternative (`elems = none`, a value that is no slice: `reflect.Value.Len` panics;
    otherwise the value's own elements become the alternative) -/
def bareAltOld (sig : Sig) (i : Nat) (x : Spec) (elems : Option (List Val)) : Except Err (List Spec) :=
  if sig.variadic && decide (sig.nIn - 1 ≤ i) then
    match elems with
    | none => .error .reflect
    | some es => .ok (es.map Spec.val)
  else .ok [x]

/-- `In(5, 6)` on `f(a int, xs ...int)`: the second alternative panicked inside reflect -/
theorem f28_unrepaired_panics :
    bareAltOld { nIn := 2, variadic := true, isMethod := false, numOut := 1 } 1 (.val 6) none = .error .reflect := by rfl

/-- `In("ab")` on `f(xs ...interface{})`: the alternative silently became the tuple of its bytes (ids 97, 98) instead of
    the 1-tuple `("ab")` that membership demands -/
theorem f28_unrepaired_silent :
    bareAltOld { nIn := 1, variadic := true, isMethod := false, numOut := 1 } 0 (.val 7) (some [97, 98]) = .ok [.val 97, .val 98] := by rfl

end C04
