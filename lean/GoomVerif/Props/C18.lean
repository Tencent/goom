import GoomVerif.Lemmas.C18L
/-! # Property C18 — argument expressions form a consistent predicate algebra

Model: `Model/ValueC18.lean` (value universe, `reflect.DeepEqual`) and `Model/Equal.lean` (transcription of arg/equals.go,
arg/expr.go, arg/builder.go, `toValue`/`ToExpr` of arg/value.go, with fixes F10 and F18A applied).  Specification `C18L.goEq`. -/
namespace C18
open C18M C18L

/-- What a matcher does: `Equals(x).Resolve([T])`, then `Eval([a])` with `a` a value of the parameter type. -/
def evalEquals (T : Ty) (x : Arg) (a : Option Val) : Res Bool :=
  (resolve (.equals x) [T]).bind (fun r => eval r [a])

/-- The argument as `reflect.MakeFunc` delivers it and the pattern as `toValue` binds it, for a parameter of type `T`:
    boxed into `T` when `T` is an interface type, as it is otherwise. -/
def asParam (T : Ty) (v : Val) : Val := if T.kind = .iface then .iface T.name v else v

/-- A pattern value is well-typed for `T`: it has type `T` (and so `T`'s size), or `T` is an interface it is assignable to. -/
def WellTyped (T : Ty) (v : Val) (sz : Nat) : Prop :=
  if T.kind = .iface then assignable T v.ty = true else (v.ty = T.name ∧ sz = T.size)

/-- `nil` is a value of `T`. -/
def Nilable (T : Ty) : Prop := T.kind = .iface ∨ T.kind = .ptr ∨ T.kind = .slice ∨ T.kind = .map ∨ T.kind = .func

theorem toValue_wt (T : Ty) (v : Val) (sz : Nat) (h : WellTyped T v sz) : toValue (some (v, sz)) T = .ok (some (asParam T v)) := by
  unfold WellTyped at h
  by_cases hk : T.kind = .iface
  · rw [if_pos hk] at h
    simp [toValue, asParam, hk, h]
  · rw [if_neg hk] at h
    simp [toValue, asParam, hk, h.1, h.2]

/-- The `nil` pattern binds to the typed nil of a nilable parameter type. -/
private theorem toValue_nil (T : Ty) (hn : Nilable T) :
    ∃ z, toValue none T = .ok (some z) ∧ nilableZero T = some z ∧ isNil (some z) = true := by
  unfold toValue nilableZero
  rcases hn with h | h | h | h | h <;> rw [h] <;> exact ⟨_, rfl, rfl, rfl⟩

/-! ## Clause 1: Any accepts everything -/

/-- `Any` resolves against any parameter types and accepts any input, at any point of any history of calls. -/
theorem any_accepts (types : List Ty) (input : List (Option Val)) (pre : List Call) :
    resolve .any types = .ok .any ∧ eval .any input = .ok true ∧
    (step (state { src := .any, res := none } pre) (.eval input)).2 = .answered (.ok true) := by
  obtain ⟨hs, hr⟩ := state_any { src := .any, res := none } pre rfl rfl
  refine ⟨rfl, rfl, ?_⟩
  show Obs.answered (eval (Option.getD _ (unresolved _)) input) = _
  rw [hs, unresolved, hr]
  rfl

/-! ## Clause 2: Equals(x) accepts a same-typed argument exactly when it equals x -/

/-- The statement without the closure hypothesis: false as it stands (known finding `C18-closure-code-identity`,
    `Findings/C18Closure.lean`). -/
def EqualsSpecFull : Prop :=
  ∀ (T : Ty) (x a : Val) (sz : Nat), WellTyped T x sz → sameDyn (asParam T x) (asParam T a) = true →
    Ordinary (asParam T x) (asParam T a) → evalEquals T (some (x, sz)) (some (asParam T a)) = .ok (goEq (asParam T x) (asParam T a))

/-- `Equals(x)` on a same-typed ordinary argument answers Go equality: `==` on integers, strings, booleans and ordinary
    floats, identity on funcs, `reflect.DeepEqual` on composites, pointee for pointers, dynamic value for interfaces,
    nil = nil.  Excluded (decidable hypothesis): two closures of one function literal with different captured state. -/
theorem equals_spec_partial (T : Ty) (x a : Val) (sz : Nat) (hw : WellTyped T x sz)
    (hs : sameDyn (asParam T x) (asParam T a) = true) (ho : Ordinary (asParam T x) (asParam T a))
    (hc : closureAlias (asParam T x) (asParam T a) = false) :
    evalEquals T (some (x, sz)) (some (asParam T a)) = .ok (goEq (asParam T x) (asParam T a)) := by
  simp only [evalEquals, resolve, toValue_wt T x sz hw, Res.bind, eval]
  exact equal_spec _ _ hs ho hc

/-- The hypotheses are satisfiable by non-trivial states: a pointer to a struct against a structurally equal fresh one
    (accepted), and against one that differs in a field (rejected). -/
example :
    let T : Ty := { name := "*S1", kind := .ptr, size := 8 }
    let s (n : Int) : Val := .ptr "*S1" 0 (.strct "S1" (.cons (.int "int" true n) (.cons (.str "string" "a" none none) .nil)))
    WellTyped T (s 1) 8 ∧ sameDyn (asParam T (s 1)) (asParam T (s 1)) = true ∧ Ordinary (asParam T (s 1)) (asParam T (s 1)) ∧
      closureAlias (asParam T (s 1)) (asParam T (s 1)) = false ∧ goEq (asParam T (s 1)) (asParam T (s 1)) = true ∧
      goEq (asParam T (s 1)) (asParam T (s 2)) = false := by
  exact ⟨⟨rfl, rfl⟩, rfl, trivial, rfl, rfl, rfl⟩

/-- nil pattern: `Equals(nil)` for a nilable parameter type accepts exactly the nil argument ("two nils are equal"). -/
theorem equals_nil (T : Ty) (hn : Nilable T) (a : Val) (z : Val) (hz : nilableZero T = some z) :
    evalEquals T none (some z) = .ok true ∧
    (isNil (some a) = false → evalEquals T none (some a) = .ok false) := by
  obtain ⟨z', hr, hz', hzn⟩ := toValue_nil T hn
  cases hz.symm.trans hz'
  simp only [evalEquals, resolve, hr, Res.bind, eval]
  have hn' (r : Option Val) : equal (some z) r = .ok (isNil r) := by
    rw [equal_nil (by rw [hzn]; rfl), hzn, Bool.true_and]
  exact ⟨by rw [hn', hzn], fun ha => by rw [hn', ha]⟩

/-! ## Clause 3: symmetry -/

/-- On the same domain `Equals` is symmetric in pattern and argument. -/
theorem equals_symm (T : Ty) (x a : Val) (sx sa : Nat) (hx : WellTyped T x sx) (ha : WellTyped T a sa)
    (hs : sameDyn (asParam T x) (asParam T a) = true) (ho : Ordinary (asParam T x) (asParam T a))
    (hc : closureAlias (asParam T x) (asParam T a) = false) :
    evalEquals T (some (x, sx)) (some (asParam T a)) = evalEquals T (some (a, sa)) (some (asParam T x)) := by
  simp only [evalEquals, resolve, toValue_wt T x sx hx, toValue_wt T a sa ha, Res.bind, eval]
  exact equal_symm _ _ hs

/-! ## Clause 4: In(x1..xn) accepts exactly the union of Equals(xi) -/

/-- `In(c1..cn)` with single components (values or nested expressions), resolved against one parameter type: its answer
    is the first-true union of the answers of its components, each resolved and evaluated on its own; a plain value `xi`
    contributes exactly `Equals(xi)`. -/
theorem in_is_union (T : Ty) (items : Items) (cs : List Comp) (r : RExpr) (a : Option Val)
    (hc : Items.comps items = some cs) (hr : resolve (.inE items) [T] = .ok r) :
    eval r [a] = orRes (cs.map (fun c => (resolveComp c T).bind (fun e => eval e [a]))) ∧
    (∀ x, resolveComp (.val x) T = resolve (.equals x) [T]) := by
  obtain ⟨rows, hrows, h2⟩ := bind_ok hr
  cases h2
  exact ⟨in_union_rows items T cs rows a hc hrows, fun _ => rfl⟩

/-- Satisfiable: `In(1, Any())` on an `int` parameter resolves, and the union has two members. -/
example :
    let T : Ty := { name := "int", kind := .int, size := 8 }
    let items := Items.one (.val (some (.int "int" true 1, 8))) (.one (.sub .any) .nil)
    (∃ r, resolve (.inE items) [T] = .ok r) ∧ (Items.comps items).map List.length = some 2 := by
  exact ⟨⟨_, rfl⟩, rfl⟩

/-- `In` over tuples, any number of parameters (the part of clause 4 that `in_is_union` does not reach): the answer is the
    first-true union, over the rows whose width is that of the argument list, of the row answers; a row answers the
    conjunction of its components (`evalRow`, by definition).  Holds for every resolved state. -/
theorem in_rows_union (rows : RRows) (input : List (Option Val)) :
    eval (.inE rows) input =
      orRes (((RRows.toList rows).filter (fun r => r.len == input.length)).map (fun r => evalRow r input)) :=
  evalRows_union rows input

/-- Non-vacuity: two rows of different width, only the matching one is consulted. -/
example : eval (.inE (.cons (.cons .any .nil) (.cons (.cons .any (.cons .any .nil)) .nil))) [some (.bool "bool" true)] = .ok true := by
  rw [in_rows_union]; rfl

/-! ## Clause 5: evaluating never changes later answers -/

/-- `Eval` leaves the expression object exactly as it was … -/
theorem eval_keeps_state (o : Obj) (input : List (Option Val)) : (step o (.eval input)).1 = o := rfl

/-- … hence an `Eval` inserted anywhere in a history of `Resolve`/`Eval` calls changes no other observation. -/
theorem eval_pure (o : Obj) (pre post : List Call) (input : List (Option Val)) :
    run o (pre ++ .eval input :: post) = run o pre ++ (step (state o pre) (.eval input)).2 :: run (state o pre) post := by
  rw [run_append]
  rfl

/-- The same input evaluated twice on one object, with arbitrary `Eval`s in between, gets the same answer. -/
theorem eval_repeatable (o : Obj) (between : List (List (Option Val))) (input : List (Option Val)) :
    (step (state o (between.map Call.eval)) (.eval input)).2 = (step o (.eval input)).2 := by
  induction between generalizing o with
  | nil => rfl
  | cons b bs ih =>
    simp only [List.map, state, eval_keeps_state]
    exact ih o

/-! ## Clause 6: no panic on well-typed input -/

/-- `Equals(x)` with a well-typed pattern (or `nil` for a nilable type) resolves and evaluates any valid argument to an
    answer: neither error nor panic. -/
theorem equals_total (T : Ty) (x : Arg) (a : Val)
    (hx : match x with | none => Nilable T | some (v, sz) => WellTyped T v sz) :
    ∃ b, evalEquals T x (some a) = .ok b := by
  obtain ⟨v, hv⟩ : ∃ v, toValue x T = .ok (some v) :=
    match x, hx with
    | none, hn => (toValue_nil T hn).imp fun _ h => h.1
    | some (v, sz), hw => ⟨_, toValue_wt T v sz hw⟩
  simp only [evalEquals, resolve, hv, Res.bind, eval]
  exact equal_total v a

/-- Any expression (`Any`, `Equals`, `In` with nested expressions and tuples) whose `Resolve` succeeded evaluates every
    tuple of valid arguments to an answer — for `In` with any number of parameters, for `Equals`/`Any` with one. -/
theorem eval_total (e : Expr) (types : List Ty) (r : RExpr) (hr : resolve e types = .ok r) :
    (∀ a : Val, ∃ b, eval r [some a] = .ok b) ∧
    (∀ rows, r = .inE rows → ∀ input, allSome input → ∃ b, eval r input = .ok b) := by
  have hw := resolve_wf e types r hr
  refine ⟨eval1_total r hw, ?_⟩
  rintro rows rfl input hi
  exact evalRows_total rows hw input hi

/-- Variadic mode (`In` with tuple items): once `Resolve(types, true)` succeeded, evaluating any packed argument list of valid
    values gives an answer (no error, no panic), and the answer is that of the non-variadic `Eval` on the expanded list — `Eval`
    reads the caller's list and never writes it (the expansion at the head of `InExpr.Eval`), which the probe checks by re-evaluating the same list. -/
theorem eval_total_variadic (items : Items) (fixed : List Ty) (elemT : Ty) (r : RExpr)
    (hr : resolveInV items fixed elemT = .ok r) (fixedArgs elems : List (Option Val))
    (hf : allSome fixedArgs) (he : allSome elems) :
    ∃ b, evalInV r fixedArgs elems = .ok b := by
  obtain ⟨rows, hrows, h2⟩ := bind_ok hr
  cases h2
  exact evalRows_total rows (resolveTuplesVFrom_wf items fixed elemT 0 rows hrows) _
    (fun a ha => (List.mem_append.mp ha).elim (hf a) (he a))

/-! ## Expression objects shared between positions, clauses and `In`s (Model/ShareC18.lean) -/

/-- "Any accepts everything" for a SHARED object: an `AnyExpr` of the heap (e.g. `arg.AnyValues`) answers `true` on every
    input after ANY script of `Resolve`/`Eval` calls on ANY objects of the heap — including `Resolve` of that very object
    against other parameter types, directly or as a component of an `In`. -/
theorem any_accepts_shared (h : Heap) (id : Nat) (hp : IsAny h id) (fuel fuel' : Nat) (script : List SStep)
    (input : List (Option Val)) :
    evalObj (fuel + 1) (stateS fuel' h script) id input = .ok true := by
  obtain ⟨o, ho, hst, _⟩ := stateS_pres id fuel' script h hp
  simp [evalObj, ho, hst]

/-- Satisfiable: a heap with `AnyValues` and an `In(AnyValues, 5)` that refers to it. -/
example : IsAny [⟨.any, .any⟩, ⟨.inE [.one (.ref 0), .one (.val (some (.int "int" true 5, 8)))], .inE []⟩] 0 :=
  ⟨_, rfl, rfl, rfl⟩

/-- `Eval` of any object leaves the whole heap as it was, … -/
theorem eval_keeps_heap (fuel : Nat) (h : Heap) (id : Nat) (input : List (Option Val)) :
    (stepS fuel h (.eval id input)).1 = h := rfl

/-- … hence an `Eval` inserted anywhere into a script of interleaved `Resolve`/`Eval` calls on shared objects changes no
    other observation (answers of earlier and later uses included). -/
theorem eval_pure_shared (fuel : Nat) (h : Heap) (pre post : List SStep) (id : Nat) (input : List (Option Val)) :
    runS fuel h (pre ++ .eval id input :: post) =
      runS fuel h pre ++ .answered (evalObj fuel (stateS fuel h pre) id input) :: runS fuel (stateS fuel h pre) post := by
  rw [runS_append]
  rfl

/-! ## Clause 6, `Resolve`: `In` over good components resolves -/

/-- A component that `In.Resolve` can bind to the parameter type `T`: a well-typed plain value that is not itself a
    `[]interface{}` (which `In` reads as a tuple — known finding), `nil` for a nilable `T`, or `Any()`. -/
def GoodComp (T : Ty) : Comp → Prop
  | .val none => Nilable T
  | .val (some (v, sz)) => WellTyped T v sz ∧ Comp.isTupleLike (.val (some (v, sz))) = false
  | .sub .any => True
  | .sub _ => False

theorem toValue_total (T : Ty) (x : Arg)
    (hx : match x with | none => Nilable T | some (v, sz) => WellTyped T v sz) : ∃ v, toValue x T = .ok (some v) := by
  match x, hx with
  | none, hn => exact (toValue_nil T hn).imp fun _ h => h.1
  | some (v, sz), hw => exact ⟨_, toValue_wt T v sz hw⟩

/-- One alternative bound as one argument: `resolveComp` against the first parameter type succeeds for a good component. -/
theorem goodComp_resolves (T : Ty) (c : Comp) (h : GoodComp T c) : Comp.isTupleLike c = false ∧ ∃ e, resolveComp c T = .ok e := by
  have val (x : Arg) : (∃ v, toValue x T = .ok (some v)) → ∃ e, resolveComp (.val x) T = .ok e :=
    fun ⟨v, hv⟩ => ⟨.equals (some v), by rw [resolveComp, hv]; rfl⟩
  match c, h with
  | .val none, h => exact ⟨rfl, val _ (toValue_total T none h)⟩
  | .val (some (v, sz)), h => exact ⟨h.2, val _ (toValue_total T (some (v, sz)) h.1)⟩
  | .sub .any, _ => exact ⟨rfl, .any, rfl⟩

/-- Resolve-totality for `In` (non-variadic, one parameter): if every alternative is a good component for `T`, then
    `In(x1..xn).Resolve([T])` succeeds — no error, no panic — and by `eval_total` every later `Eval` answers.
    PARTIAL with respect to the property text: a `[]interface{}` alternative is excluded (finding
    `C18-in-item-slice-of-interface-is-tuple`), nested `Equals`/`In` sub-expressions are not covered, variadic mode is not. -/
theorem in_resolve_total_partial (T : Ty) : ∀ (items : Items) (cs : List Comp), Items.comps items = some cs →
    (∀ c ∈ cs, GoodComp T c) → ∃ rows, resolveItems items [T] = .ok rows
  | .nil, cs, _, _ => ⟨.nil, by simp [resolveItems]⟩
  | .tuple _ _, cs, hc, _ => by simp [Items.comps] at hc
  | .one c rest, cs, hc, hg => by
    simp only [Items.comps, Option.map_eq_some_iff] at hc
    obtain ⟨cs', hcs', rfl⟩ := hc
    obtain ⟨rows, hrows⟩ := in_resolve_total_partial T rest cs' hcs' (fun c' h' => hg c' (by simp [h']))
    obtain ⟨ht, e, he⟩ := goodComp_resolves T c (hg c (by simp))
    exact ⟨.cons (.cons e .nil) rows, by simp [resolveItems, ht, typeAt, he, hrows, Res.bind]⟩

/-- Non-vacuity: `In(1, Any())` on an `int` parameter satisfies the hypotheses. -/
example : ∀ c ∈ [Comp.val (some (.int "int" true 1, 8)), Comp.sub .any],
    GoodComp { name := "int", kind := .int, size := 8 } c := by
  intro c hc
  simp at hc
  rcases hc with rfl | rfl
  · exact ⟨⟨rfl, rfl⟩, rfl⟩
  · trivial

/-! ## Clause 6, `Resolve` in variadic mode (`InExpr.Resolve` as of goom 8d8ef90): a non-slice alternative is ONE argument -/

/-- Resolve-totality of `In` in VARIADIC mode, for a function with at most one fixed parameter (`f(xs ...T)` or `f(a A, xs ...T)`):
    if every alternative is a single good component for the first parameter position (`elemT` for `f(xs ...T)`, `A` otherwise) and
    is not a slice/array (those are expanded into whole argument lists), `In(x1..xn).Resolve(types, true)` succeeds —
    `In(1, 2)` on `f(xs ...int)` does not panic in `reflect.Value.Len`.  With two or more fixed parameters a single value is
    rejected with the "number of args" error (not a panic); slices/arrays at the variadic position are covered by the
    differential run only.  PARTIAL in the same sense as `in_resolve_total_partial` (no `[]interface{}` alternative, no nested
    Equals/In). -/
theorem in_resolve_total_variadic_partial (fixed : List Ty) (elemT T0 : Ty) (hf : fixed.length ≤ 1)
    (hT : typeAt (fixed ++ [elemT]) 0 = some T0) :
    ∀ (items : Items) (cs : List Comp) (i : Nat), Items.comps items = some cs →
      (∀ c ∈ cs, GoodComp T0 c ∧ expandable c = none) → ∃ rows, resolveTuplesVFrom items fixed elemT i = .ok rows
  | .nil, cs, _, _, _ => ⟨.nil, by simp [resolveTuplesVFrom]⟩
  | .tuple _ _, cs, _, hc, _ => by simp [Items.comps] at hc
  | .one c rest, cs, i, hc, hg => by
    simp only [Items.comps, Option.map_eq_some_iff] at hc
    obtain ⟨cs', hcs', rfl⟩ := hc
    obtain ⟨rows, hrows⟩ := in_resolve_total_variadic_partial fixed elemT T0 hf hT rest cs' (i + 1) hcs'
      (fun c' h' => hg c' (by simp [h']))
    obtain ⟨hgc, hne⟩ := hg c (by simp)
    obtain ⟨ht, e, he⟩ := goodComp_resolves T0 c hgc
    have hrow : toExprV (.cons c .nil) fixed elemT = .ok (.cons e .nil) := by
      have hl : ¬ ((Comps.cons c .nil).len < fixed.length) := by simp [Comps.len]; omega
      simp [toExprV, hl, toExprFrom, hT, he, Res.bind]
    refine ⟨.cons (.cons e .nil) rows, ?_⟩
    simp only [resolveTuplesVFrom, ht, hne]
    simp [hrow, hrows, Res.bind]

/-- Non-vacuity: `In(1, 2)` on `f(xs ...int)` meets the hypotheses. -/
example : ∃ rows, resolveTuplesVFrom (.one (.val (some (.int "int" true 1, 8))) (.one (.val (some (.int "int" true 2, 8))) .nil))
    [] { name := "int", kind := .int, size := 8 } 0 = .ok rows :=
  in_resolve_total_variadic_partial [] _ { name := "int", kind := .int, size := 8 } (by simp) rfl _ _ 0 rfl (by
    intro c hc
    simp at hc
    rcases hc with rfl | rfl <;> exact ⟨⟨⟨rfl, rfl⟩, rfl⟩, rfl⟩)

end C18
