import GoomVerif.Gen.X86Table
/-!
# Model of goom's x86-64 table decoder — `internal/arch/x86asm/decode.go:238 decode1`, mode = 64, gnuCompat = false

Transcribed from the code as it is.  The decoding *table* (`decoder`, 13 401 uint16), the numeric values of the `x*`
bytecodes, of the `Reg`/`Op` constants, `baseReg`, `fixedArg` and the array lengths come from `Gen/X86Table.lean`,
which is regenerated from the compiled package on every run.  The interpreter below is hand-written and tied to the real
`x86asm.Decode` by the correspondence run of `checks/C16.py` (same byte strings → same `(err, Len, Op, PCRel, PCRelOff)`).

What is kept of the Go state: everything that can influence `err`, `Len`, `Op`, `Opcode`, `PCRel`, `PCRelOff` or a run-time panic
(slice/array index).  `inst.Prefix[i]` flags are kept only where the code reads them back (the byte of the last REP/REPN and
of the last FS/GS prefix, the Implicit flag on the last REP prefix, the two VEX payload bytes); `inst.Args` is reduced to
`narg` (index-out-of-range on `inst.Args[narg]`) and to `Args[0]` as a register number (read by the NOP fix-up, decode.go:1244).
Every Go index expression is either guarded by the same test as in the source or produces `Err.panic`.
Reductions justified by mode = 64: `addrMode ∈ {32,64}`, `dataMode ∈ {16,32,64}` (type `Sz`), the 16-bit ModRM form
(decode.go:472-498) and `xCondIs64`'s 16/32 branch are unreachable and omitted.
`fetch` reads *all* operands of a table instruction eagerly where Go reads them lazily (e.g. all `n` entries of an
`xCondByte`); on a well-formed table (`X86Cert.okAt_all`) both never leave the table, on a corrupted one the model may
report `panic` where Go would not reach the bad entry — that shows up as a correspondence difference, never as silence.
-/
namespace X86Dec
open Gen.X86

abbrev Bytes := List (BitVec 8)

inductive Sz | s16 | s32 | s64
  deriving DecidableEq, Repr

/-- result class: `ok` = `err == nil` -/
inductive Err | ok | trunc | unrec | internal | panic | fuel
  deriving DecidableEq, Repr

structure Res where
  err : Err
  len : Nat
  op : Nat := 0
  pcrel : Nat := 0
  pcreloff : Nat := 0
  opcode : Nat := 0   -- inst.Opcode (uint32): opcode bytes incl. ModRM/SIB, left aligned; 0 on every `Inst{Len: …}` return
  deriving DecidableEq, Repr

def panicRes : Res := { err := .panic, len := 0 }

/-- decode.go:171 `instPrefix(src[0], mode)`: `Inst{Len: 1}` with `err == nil`.  Evaluating `src[0]` panics on an empty slice. -/
def instPrefix (src : Bytes) : Res :=
  if src.length = 0 then panicRes else { err := .ok, len := 1 }

/-- decode.go:203 `truncated` -/
def truncated (src : Bytes) : Res :=
  if src.length = 0 then { err := .trunc, len := 0 } else instPrefix src

/-- what the prefix phase leaves behind (decode.go:253-427) -/
structure Pfx where
  pos : Nat := 0
  nprefix : Nat := 0
  lock : Bool := false        -- lockIndex >= 0
  rep : Nat := 0              -- inst.Prefix[repIndex] & 0xFF, 0 when repIndex < 0
  seg : Nat := 0              -- inst.Prefix[segIndex] & 0xFF, 0 when segIndex < 0 (mode 64: only 0x64 / 0x65 set segIndex)
  dataSize : Bool := false    -- dataSizeIndex >= 0
  addrSize : Bool := false    -- addrSizeIndex >= 0
  rex : Nat := 0
  vex : Nat := 0
  vexB1 : Nat := 0            -- inst.Prefix[vexIndex+1]
  vexB2 : Nat := 0            -- inst.Prefix[vexIndex+2]
  am : Sz := .s64
  dm : Sz := .s32
  deriving Repr

/-- decode.go:308-404, the `ReadPrefixes` loop.  `Except.error r` = early `return`. -/
def readPrefixes (src : Bytes) (pos : Nat) (a : Pfx) : Except Res Pfx :=
  if h : pos < src.length then
    let p := (src[pos]).toNat
    -- the `switch p` decides: stop (default / refused VEX), VEX (continue), or an ordinary prefix
    if p = 0xC5 then
      if pos = 0 ∧ pos + 1 < src.length then                              -- :373 (mode == 64)
        readPrefixes src (pos + 2) { a with vex := p, vexB1 := (src.getD (pos + 1) 0).toNat }
      else .ok { a with pos := pos, nprefix := pos }
    else if p = 0xC4 then
      if pos = 0 ∧ pos + 2 < src.length then                              -- :385
        readPrefixes src (pos + 3)
          { a with vex := p, vexB1 := (src.getD (pos + 1) 0).toNat, vexB2 := (src.getD (pos + 2) 0).toNat }
      else .ok { a with pos := pos, nprefix := pos }
    else
      let a' : Option Pfx :=
        if p = 0xF0 then some { a with lock := true }
        else if p = 0xF2 ∨ p = 0xF3 then some { a with rep := p }
        else if p = 0x26 ∨ p = 0x2E ∨ p = 0x36 ∨ p = 0x3E then some a     -- :332 mode 64: ignored
        else if p = 0x64 ∨ p = 0x65 then some { a with seg := p }
        else if p = 0x66 then some { a with dm := .s16, dataSize := true }
        else if p = 0x67 then some { a with am := .s32, addrSize := true }
        else none
      match a' with
      | none => .ok { a with pos := pos, nprefix := pos }                 -- :312 default
      | some a' =>
        if pos ≥ len_prefix then .error (instPrefix src)                  -- :399
        else readPrefixes src (pos + 1) a'
  else .ok { a with pos := pos }                                          -- loop ran off the end: nprefix stays 0
termination_by src.length - pos

def isREX (p : Nat) : Bool := p &&& 0xF0 == 0x40

/-- decode.go:406-427 -/
def readRex (src : Bytes) (a : Pfx) : Except Res Pfx :=
  if h : a.pos < src.length then
    let p := (src[a.pos]).toNat
    if isREX p ∧ a.vex = 0 then
      if a.pos ≥ len_prefix then .error (instPrefix src)
      else .ok { a with rex := p, pos := a.pos + 1, dm := if p &&& 0x08 ≠ 0 then .s64 else a.dm }
    else .ok a
  else .ok a

/-- decoder-loop state (decode.go:253-301, the part that matters, see the header) -/
structure St where
  pos : Nat
  haveModrm : Bool := false
  modrm : Nat := 0
  mod_ : Nat := 0
  regop : Nat := 0
  rm : Nat := 0
  haveMem : Bool := false
  haveSIB : Bool := false
  sibBase : Nat := 0
  memBase : Nat := 0          -- mem.Base as a Reg number
  displen : Nat := 0
  dispoff : Nat := 0
  immcpos : Nat := 0
  osh8 : Nat := 32            -- opshift + 8
  opcode : Nat := 0
  op : Nat := 0
  narg : Nat := 0
  arg0 : Nat := 0             -- inst.Args[0] if it is a Reg, else 0
  pcrel : Nat := 0
  pcreloff : Nat := 0
  repImplicit : Bool := false -- inst.Prefix[repIndex] & PrefixImplicit
  deriving Repr

/-- one table instruction with its operands -/
inductive Instr
  | fail | match_
  | jump (t : Nat)
  | condByte (ents : List (Nat × Nat)) (fall : Nat) (fallFail : Bool)
  | condIs64 (t : Nat)
  | condIsMem (tReg tMem : Nat)
  | condDataSize (t16 t32 t64 : Nat)
  | condAddrSize (t16 t32 t64 : Nat)
  | condPrefix (ents : List (Nat × Nat))
  | condSlashR (ts : List Nat)
  | setOp (op next : Nat)
  | plain (x next : Nat)
  | bad (x : Nat)
  deriving Repr

/-- `k` pairs `(decoder[p], decoder[p+1]), (decoder[p+2], decoder[p+3]), …` -/
def readPairs : Nat → Nat → Option (List (Nat × Nat))
  | 0, _ => some []
  | k + 1, p => do
    let a ← tbl? p
    let b ← tbl? (p + 1)
    let r ← readPairs k (p + 2)
    pure ((a, b) :: r)

def readList : Nat → Nat → Option (List Nat)
  | 0, _ => some []
  | k + 1, p => do
    let a ← tbl? p
    let r ← readList k (p + 1)
    pure (a :: r)

/-- decode.go:443 `x := decoder[pc]` plus the operand reads of each case of the `switch decodeOp(x)` -/
def fetch (pc : Nat) : Option Instr := do
  let x ← tbl? pc
  if x = xFail then pure .fail
  else if x = xMatch then pure .match_
  else if x = xJump then pure (.jump (← tbl? (pc + 1)))                    -- :602
  else if x = xCondByte then                                               -- :606-636
    let n ← tbl? (pc + 1)
    let ents ← readPairs n (pc + 2)
    let after := pc + 2 + 2 * n
    let y ← tbl? after
    let fall ← if y = xJump then tbl? (after + 1) else pure after
    let z ← tbl? fall
    pure (.condByte ents fall (z = xFail))
  else if x = xCondIs64 then pure (.condIs64 (← tbl? (pc + 2)))            -- :639 mode == 64
  else if x = xCondIsMem then pure (.condIsMem (← tbl? (pc + 1)) (← tbl? (pc + 2)))
  else if x = xCondDataSize then pure (.condDataSize (← tbl? (pc + 1)) (← tbl? (pc + 2)) (← tbl? (pc + 3)))
  else if x = xCondAddrSize then pure (.condAddrSize (← tbl? (pc + 1)) (← tbl? (pc + 2)) (← tbl? (pc + 3)))
  else if x = xCondPrefix then                                             -- :762
    let n ← tbl? (pc + 1)
    pure (.condPrefix (← readPairs n (pc + 2)))
  else if x = xCondSlashR then pure (.condSlashR (← readList 8 (pc + 1)))  -- :882
  else if x = xSetOp then pure (.setOp (← tbl? (pc + 1)) (pc + 2))         -- :975
  else if x ≤ xArgRmf64 then pure (.plain x (pc + 1))
  else pure (.bad x)

/-- result of one interpreter step -/
inductive Step
  | next (pc : Nat) (s : St)
  | brk (s : St)            -- `break Decode`
  | ret (r : Res)           -- `return`

/-- decode.go:1535 `baseRegForBits(addrMode)` -/
def baseRegFor : Sz → Nat
  | .s16 => regAX | .s32 => regEAX | .s64 => regRAX

/-- `inst.Opcode |= b << opshift; opshift -= 8` when `opshift >= 0` (decode.go:461, 511, 619) -/
def pushOpcode (s : St) (b : Nat) : St :=
  if s.osh8 ≥ 8 then { s with opcode := s.opcode ||| (b <<< (s.osh8 - 8)), osh8 := s.osh8 - 8 } else s

/-- decode.go:452-471, 500: the ModR/M byte itself -/
def modrmHead (src : Bytes) (P : Pfx) (s : St) : Except Res St :=
  if s.haveModrm then .error { err := .internal, len := s.pos }            -- :452
  else if h : s.pos < src.length then
    let modrm := (src[s.pos]).toNat
    let s := pushOpcode { s with haveModrm := true, modrm := modrm, pos := s.pos + 1 } modrm
    let mod_ := modrm >>> 6
    let regop := if P.rex &&& 0x04 ≠ 0 then ((modrm >>> 3) &&& 7) ||| 8 else (modrm >>> 3) &&& 7
    .ok { s with mod_ := mod_, regop := regop, rm := modrm &&& 7, haveMem := mod_ != 3 }
  else .error (truncated src)                                               -- :456

/-- decode.go:504-548: SIB byte, or REX.B on rm; sets mem.Base -/
def modrmSib (src : Bytes) (P : Pfx) (s : St) : Except Res St :=
  if s.rm = 4 ∧ s.mod_ ≠ 3 then
    if h2 : s.pos < src.length then
      let sib := (src[s.pos]).toNat
      let s := pushOpcode { s with pos := s.pos + 1, haveSIB := true } sib
      let base0 := sib &&& 7
      let base := if P.rex &&& 0x01 ≠ 0 ∨ (P.vex = 0xC4 ∧ P.vexB1 &&& 0x20 = 0) then base0 ||| 8 else base0
      if base &&& 7 = 5 ∧ s.mod_ = 0 then .ok { s with sibBase := base }
      else .ok { s with sibBase := base, memBase := (baseRegFor P.am + base) % 256 }
    else .error (truncated src)
  else
    let rm' := if P.rex &&& 0x01 ≠ 0 then s.rm ||| 8 else s.rm
    if (s.mod_ = 0 ∧ rm' &&& 7 = 5) ∨ rm' &&& 7 = 4 then .ok { s with rm := rm' }
    else if s.mod_ ≠ 3 then .ok { s with rm := rm', memBase := (baseRegFor P.am + rm') % 256 }
    else .ok { s with rm := rm' }

/-- decode.go:551-559 disp32 -/
def modrmDisp32 (src : Bytes) (s : St) : Except Res St :=
  if (s.mod_ = 0 ∧ (s.rm &&& 7 = 5 ∨ (s.haveSIB = true ∧ s.sibBase &&& 7 = 5))) ∨ s.mod_ = 2 then
    if s.pos + 4 > src.length then .error (truncated src)
    else .ok { s with dispoff := s.pos, displen := 4, pos := s.pos + 4 }
  else .ok s

/-- decode.go:562-570 disp8 -/
def modrmDisp8 (src : Bytes) (s : St) : Except Res St :=
  if s.mod_ = 1 then
    if s.pos ≥ src.length then .error (truncated src)
    else .ok { s with dispoff := s.pos, displen := 1, pos := s.pos + 1 }
  else .ok s

/-- decode.go:574-580: mod=0 rm=5 is PC-relative in 64-bit mode -/
def modrmRip (P : Pfx) (s : St) : St :=
  if s.mod_ = 0 ∧ s.rm &&& 7 = 5 then { s with memBase := if P.am = .s32 then regEIP else regRIP } else s

/-- decode.go:451-586: read and decode ModR/M (32/64-bit address form) -/
def readModrm (src : Bytes) (P : Pfx) (s : St) : Except Res St :=
  match modrmHead src P s with
  | .error r => .error r
  | .ok s =>
    match modrmSib src P s with
    | .error r => .error r
    | .ok s =>
      match modrmDisp32 src s with
      | .error r => .error r
      | .ok s =>
        match modrmDisp8 src s with
        | .error r => .error r
        | .ok s => .ok (modrmRip P s)

/-- `inst.Args[narg] = a; narg++` — index out of range is a Go panic -/
def putArg (s : St) (reg : Nat) (next : Nat) : Step :=
  if s.narg < len_args then
    .next next { s with arg0 := if s.narg = 0 then reg else s.arg0, narg := s.narg + 1 }
  else .ret panicRes

/-- `if mem.Base == RIP { inst.PCRel = displen; inst.PCRelOff = dispoff }` -/
def setPCRelIfRip (s : St) : St :=
  if s.memBase = regRIP then { s with pcrel := s.displen, pcreloff := s.dispoff } else s

/-- a memory argument: `inst.Args[narg] = mem; inst.MemBytes = int(memBytes[x]); …; narg++` -/
def putMem (s : St) (x next : Nat) : Step :=
  if s.narg < len_args then
    if x < len_memBytes then putArg (setPCRelIfRip s) 0 next else .ret panicRes
  else .ret panicRes

def regOf (x : Nat) : Option Nat := baseReg[x]?

/-- `rex != 0 && base == AL && index >= 4` → SPB family -/
def lowByteReg (P : Pfx) (base index : Nat) : Nat :=
  if P.rex ≠ 0 ∧ base = regAL ∧ index ≥ 4 then (regSPB + (index - 4)) % 256 else (base + index) % 256

def fixedOps : List Nat := [xArg1, xArg3, xArgAL, xArgAX, xArgCL, xArgCS, xArgDS, xArgDX, xArgEAX, xArgEDX, xArgES, xArgFS,
  xArgGS, xArgRAX, xArgRDX, xArgSS, xArgST, xArgXMM0]
def immOps : List Nat := [xArgImm8, xArgImm8u, xArgImm16, xArgImm16u, xArgImm32, xArgImm64]
def memOps : List Nat := [xArgM, xArgM128, xArgM256, xArgM1428byte, xArgM16, xArgM16and16, xArgM16and32, xArgM16and64,
  xArgM16colon16, xArgM16colon32, xArgM16colon64, xArgM16int, xArgM2byte, xArgM32, xArgM32and32, xArgM32fp, xArgM32int,
  xArgM512byte, xArgM64, xArgM64fp, xArgM64int, xArgM8, xArgM80bcd, xArgM80dec, xArgM80fp, xArgM94108byte, xArgMem]
def moffsOps : List Nat := [xArgMoffs8, xArgMoffs16, xArgMoffs32, xArgMoffs64]
def regopOps : List Nat := [xArgR8, xArgR16, xArgR32, xArgR64, xArgXmm, xArgXmm1, xArgDR0dashDR7]
def mmOps : List Nat := [xArgMm, xArgMm1, xArgTR0dashTR7]
def rmfOps : List Nat := [xArgRmf16, xArgRmf32, xArgRmf64]
def opregOps : List Nat := [xArgR8op, xArgR16op, xArgR32op, xArgR64op, xArgSTi]
def rmOps : List Nat := [xArgRM8, xArgRM16, xArgRM32, xArgRM64, xArgR32M16, xArgR32M8, xArgR64M16, xArgMmM32, xArgMmM64,
  xArgMm2M64, xArgXmm2M16, xArgXmm2M32, xArgXmm2M64, xArgXmmM64, xArgXmmM128, xArgXmmM32, xArgXmm2M128, xArgYmm2M256]

/-- read `k` immediate bytes (xReadIb/Iw/ID/Io, decode.go:889-915) -/
def readImm (src : Bytes) (s : St) (k next : Nat) : Step :=
  if s.pos + k > src.length then .ret (truncated src) else .next next { s with pos := s.pos + k }

/-- read a `k`-byte code offset (xReadCb/Cw/Cd/Cp/Cm, decode.go:917-970) -/
def readImmc (src : Bytes) (s : St) (k next : Nat) : Step :=
  if s.pos + k > src.length then .ret (truncated src) else .next next { s with immcpos := s.pos, pos := s.pos + k }

/-- the cases of the second `switch decodeOp(x)` (decode.go:589-1223) that take no table operand -/
def stepPlain (src : Bytes) (P : Pfx) (x next : Nat) (s : St) : Step :=
  if x = xReadSlashR then .next next s                                     -- done by readModrm
  else if x = xReadIb then readImm src s 1 next
  else if x = xReadIw then readImm src s 2 next
  else if x = xReadID then readImm src s 4 next
  else if x = xReadIo then readImm src s 8 next
  else if x = xReadCb then readImmc src s 1 next
  else if x = xReadCw then readImmc src s 2 next
  else if x = xReadCm then readImmc src s (if P.am = .s32 then 4 else 8) next   -- :933 (addrMode 16 impossible in mode 64)
  else if x = xReadCd then readImmc src s 4 next
  else if x = xReadCp then readImmc src s 6 next
  else if x ∈ fixedOps then                                                -- :978
    match fixedArg[x]? with
    | some r => putArg s r next
    | none => .ret panicRes
  else if x ∈ immOps then putArg s 0 next                                  -- :999-1021
  else if x ∈ memOps then                                                  -- :1023
    if !s.haveMem then .brk { s with op := 0 } else putMem s x next
  else if x = xArgPtr16colon16 ∨ x = xArgPtr16colon32 then                 -- :1062 writes Args[narg], Args[narg+1]
    if s.narg + 1 < len_args then .next next { s with narg := s.narg + 2 } else .ret panicRes
  else if x ∈ moffsOps then putMem { s with memBase := 0 } x next          -- :1072 mem = Mem{Disp: immc}
  else if x = xArgYmm1 then                                                -- :1087 (reads inst.Prefix[vexIndex+1])
    match regOf x with
    | some base => putArg s ((base + (if P.vexB1 &&& 0x80 = 0 then s.regop + 8 else s.regop)) % 256) next
    | none => .ret panicRes
  else if x ∈ regopOps then                                                -- :1096
    match regOf x with
    | some base => putArg s (lowByteReg P base s.regop) next
    | none => .ret panicRes
  else if x ∈ mmOps then                                                   -- :1107
    match regOf x with
    | some base => putArg s ((base + (s.regop &&& 7)) % 256) next
    | none => .ret panicRes
  else if x = xArgCR0dashCR7 then                                          -- :1111
    let s := if P.lock then { s with regop := s.regop + 8 } else s
    putArg s ((regCR0 + s.regop) % 256) next
  else if x = xArgSreg then                                                -- :1123
    let s := { s with regop := s.regop &&& 7 }
    if s.regop ≥ 6 then .brk { s with op := 0 } else putArg s ((regES + s.regop) % 256) next
  else if x ∈ rmfOps then                                                  -- :1132
    match regOf x with
    | some base => putArg s ((base + (if P.rex &&& 0x01 ≠ 0 then (s.modrm &&& 7) + 8 else s.modrm &&& 7)) % 256) next
    | none => .ret panicRes
  else if x ∈ opregOps then                                                -- :1142
    match regOf x with
    | some base =>
      let n := (s.opcode >>> s.osh8) &&& 7
      let index := if P.rex &&& 0x01 ≠ 0 ∧ x ≠ xArgSTi then n + 8 else n
      putArg s (lowByteReg P base index) next
    | none => .ret panicRes
  else if x ∈ rmOps then                                                   -- :1157
    if s.haveMem then putMem s x next
    else
      match regOf x with
      | some base =>
        let r :=
          if x = xArgMmM32 ∨ x = xArgMmM64 ∨ x = xArgMm2M64 then (base + (s.rm &&& 7)) % 256
          else if x = xArgRM8 then (if P.rex ≠ 0 ∧ s.rm ≥ 4 then (regSPB + (s.rm - 4)) % 256 else (base + s.rm) % 256)
          else if x = xArgYmm2M256 then (base + (if P.vex = 0xC4 ∧ P.vexB1 &&& 0x40 = 0x40 then s.rm + 8 else s.rm)) % 256
          else (base + s.rm) % 256
        putArg s r next
      | none => .ret panicRes
  else if x = xArgMm2 then                                                 -- :1190
    if s.haveMem then .brk { s with op := 0 }
    else match regOf x with
      | some base => putArg s ((base + (s.rm &&& 7)) % 256) next
      | none => .ret panicRes
  else if x = xArgXmm2 then                                                -- :1198
    if s.haveMem then .brk { s with op := 0 }
    else match regOf x with
      | some base => putArg s ((base + s.rm) % 256) next
      | none => .ret panicRes
  else if x = xArgRel8 then putArg { s with pcreloff := s.immcpos, pcrel := 1 } 0 next    -- :1206
  else if x = xArgRel16 then putArg { s with pcreloff := s.immcpos, pcrel := 2 } 0 next
  else if x = xArgRel32 then putArg { s with pcreloff := s.immcpos, pcrel := 4 } 0 next
  else .ret { err := .internal, len := s.pos }                             -- :590 default

/-- the `for j := 0; j < n; j++` loop of xCondPrefix (decode.go:765-879), gnuCompat = false -/
def condPrefixLoop (P : Pfx) : List (Nat × Nat) → St → Step
  | [], s => .brk { s with op := 0 }                                        -- :878
  | (pfx, target) :: rest, s =>
    if isREX pfx then                                                    -- :767
      if P.rex &&& pfx = pfx then .next target s else condPrefixLoop P rest s
    else if pfx = 0 then .next target s
    else if pfx = 0xC5 ∨ pfx = 0xC4 then
      if P.vex = pfx then .next target s else condPrefixLoop P rest s
    else if P.vex ≠ 0 ∧ (pfx = 0x0F ∨ pfx = 0x0F38 ∨ pfx = 0x0F3A ∨ pfx = 0x66 ∨ pfx = 0xF2 ∨ pfx = 0xF3) then
      let vexM := if P.vex = 0xC5 then 1 else P.vexB1
      let vexP := if P.vex = 0xC5 then P.vexB1 else P.vexB2
      let ok :=
        if pfx = 0x66 then vexP &&& 3 = 1
        else if pfx = 0xF3 then vexP &&& 3 = 2
        else if pfx = 0xF2 then vexP &&& 3 = 3
        else if pfx = 0x0F then vexM &&& 3 = 1
        else if pfx = 0x0F38 then vexM &&& 3 = 2
        else vexM &&& 3 = 3
      if ok then .next target s else condPrefixLoop P rest s
    else if pfx = 0xF0 then
      if P.lock then .next target s else condPrefixLoop P rest s
    else if pfx = 0xF3 ∨ pfx = 0xF2 then                               -- :821
      if P.rep ≠ 0 ∧ P.rep = pfx then .next target { s with repImplicit := true } else condPrefixLoop P rest s
    else if pfx = 0x2E ∨ pfx = 0x3E ∨ pfx = 0x26 ∨ pfx = 0x64 ∨ pfx = 0x65 ∨ pfx = 0x36 then
      if P.seg ≠ 0 ∧ P.seg = pfx then .next target s else condPrefixLoop P rest s
    else if pfx = 0x66 then                                               -- :849
      if P.rep ≠ 0 then .brk { s with op := 0 }
      else if P.dataSize then .next target s else condPrefixLoop P rest s
    else if pfx = 0x67 then
      if P.addrSize then .next target s else condPrefixLoop P rest s
    else condPrefixLoop P rest s

/-- one iteration of the `Decode:` loop (decode.go:437-1224) on the fetched instruction -/
def step (src : Bytes) (P : Pfx) (i : Instr) (s : St) : Step :=
  match i with
  | .fail => .brk { s with op := 0 }
  | .match_ => .brk s
  | .jump t => .next t s
  | .condByte ents fall fallFail =>
    if h : s.pos < src.length then
      let b := (src[s.pos]).toNat
      match ents.find? (fun e => e.1 % 256 == b) with
      | some e => .next e.2 (pushOpcode { s with pos := s.pos + 1 } b)
      | none => .next fall (if fallFail then { s with pos := s.pos + 1 } else s)
    else .ret (truncated src)
  | .condIs64 t => .next t s
  | .condIsMem tReg tMem =>
    if s.haveModrm then .next (if s.haveMem then tMem else tReg) s
    else if h : s.pos < src.length then
      .next (if (src[s.pos]).toNat >>> 6 ≠ 3 then tMem else tReg) s
    else .ret (instPrefix src)
  | .condDataSize t16 t32 t64 => .next (match P.dm with | .s16 => t16 | .s32 => t32 | .s64 => t64) s
  | .condAddrSize t16 t32 t64 => .next (match P.am with | .s16 => t16 | .s32 => t32 | .s64 => t64) s
  | .condPrefix ents => condPrefixLoop P ents s
  | .condSlashR ts =>
    match readModrm src P s with
    | .error r => .ret r
    | .ok s =>
      match ts[s.regop &&& 7]? with
      | some t => .next t s
      | none => .ret panicRes
  | .setOp op next => .next next { s with op := op }
  | .plain x next =>
    if x = xReadSlashR then
      match readModrm src P s with
      | .error r => .ret r
      | .ok s => stepPlain src P x next s
    else stepPlain src P x next s
  | .bad _ => .ret { err := .internal, len := s.pos }

/-- decode.go:1226-1517, what remains of it for (err, Len, Op, PCRel, PCRelOff) -/
def finish (src : Bytes) (P : Pfx) (s : St) : Res :=
  if s.op = 0 then
    if P.nprefix > 0 then instPrefix src else { err := .unrec, len := s.pos }
  else
    let op :=
      if s.op = opXCHG ∧ s.opcode >>> 24 = 0x90 then
        let o := if s.arg0 = regRAX ∨ s.arg0 = regEAX ∨ s.arg0 = regAX then opNOP else s.op
        if P.rep = 0xF3 ∧ !s.repImplicit then opPAUSE else o
      else s.op
    { err := .ok, len := s.pos, op := op, pcrel := s.pcrel, pcreloff := s.pcreloff, opcode := s.opcode }

/-- the `Decode:` loop with explicit fuel (the table program is acyclic; `Props/C16.lean` proves fuel 16 is never exhausted) -/
def run (src : Bytes) (P : Pfx) : Nat → Nat → St → Res
  | 0, _, _ => { err := .fuel, len := 0 }
  | f + 1, pc, s =>
    match fetch pc with
    | none => panicRes
    | some i =>
      match step src P i s with
      | .next pc' s' => run src P f pc' s'
      | .brk s' => finish src P s'
      | .ret r => r

def fuel0 : Nat := 16

/-- `x86asm.Decode(src, 64)` -/
def decode (src0 : Bytes) : Res :=
  let src := src0.take 15                                                   -- :249
  match readPrefixes src 0 {} with
  | .error r => r
  | .ok P =>
    match readRex src P with
    | .error r => r
    | .ok P => run src P fuel0 1 { pos := P.pos }

/-! ## Certificate checker (static facts about the table program, re-checked by the kernel for every pc) -/

structure Cert where
  rank : Nat
  nargMax : Nat
  immcw : Nat
  cons : Bool
  /-- 0 = `inst.Opcode ≠ 0` on every path; k+1 = at most k bytes were shifted into `inst.Opcode`, possibly all zero (5 = no claim) -/
  z : Nat
  deriving Repr

/-- certificate of a pc, `none` = no claim (unreachable) -/
def cert? (pc : Nat) : Option Cert :=
  let w := certWord pc
  if w &&& 1 = 0 then none
  else some { rank := (w >>> 1) &&& 15, nargMax := (w >>> 5) &&& 7, immcw := (w >>> 8) &&& 15, cons := (w >>> 12) &&& 1 = 1,
              z := (w >>> 13) &&& 15 }

/-- abstract `Opcode` state after an edge that shifts at most `np` bytes into `inst.Opcode`, one of them known non-zero if `pz` -/
def edgeZ (z : Nat) (pz : Bool) (np : Nat) : Nat :=
  if z = 0 then 0 else if pz && decide (z ≤ 4) then 0 else min 5 (z + np)

/-- edge `c → pc'` with effect: `dn` args written, `rd` = width of a code-offset read (0 = none), `cs` = the edge consumed ≥ 1 byte,
    `pz`/`np` = what it shifts into `inst.Opcode` -/
def edgeOK (c : Cert) (dn rd : Nat) (cs : Bool) (pz : Bool) (np : Nat) (pc' : Nat) : Bool :=
  match cert? pc' with
  | none => false
  | some c' =>
    decide (c'.rank < c.rank) && decide (c.nargMax + dn ≤ c'.nargMax) && decide (c'.nargMax ≤ len_args)
      && decide (c'.immcw ≤ (if rd = 0 then c.immcw else rd)) && (!c'.cons || c.cons || cs)
      && decide (edgeZ c.z pz np ≤ c'.z)

def readCWidth (x : Nat) : Nat :=
  if x = xReadCb then 1 else if x = xReadCw then 2 else if x = xReadCd then 4 else if x = xReadCp then 6
  else if x = xReadCm then 4 else 0

def isReadI (x : Nat) : Bool := x = xReadIb ∨ x = xReadIw ∨ x = xReadID ∨ x = xReadIo

def isOneArg (x : Nat) : Bool :=
  x ∈ fixedOps ∨ x ∈ immOps ∨ x ∈ memOps ∨ x ∈ moffsOps ∨ x = xArgYmm1 ∨ x ∈ regopOps ∨ x ∈ mmOps ∨ x = xArgCR0dashCR7
    ∨ x = xArgSreg ∨ x ∈ rmfOps ∨ x ∈ opregOps ∨ x ∈ rmOps ∨ x = xArgMm2 ∨ x = xArgXmm2 ∨ x = xArgRel8 ∨ x = xArgRel16 ∨ x = xArgRel32

/-- static effect and side conditions of a plain op, a function of the bytecode alone -/
structure Eff where
  dn : Nat := 0            -- arguments written
  rd : Nat := 0            -- width of the code offset read (0 = none)
  cs : Bool := false       -- consumes at least one byte on the non-returning path
  needCons : Bool := false -- requires that a byte was consumed before
  needImmcw : Nat := 0     -- requires a code offset of at least this width
  static : Bool := true    -- array-index side conditions (`fixedArg[x]`, `memBytes[x]`, `baseReg[x]`)
  np : Nat := 0            -- bytes shifted into inst.Opcode (ModRM + SIB)
  needZ : Nat := 15        -- requires the abstract Opcode state to be at most this (0 = Opcode ≠ 0, ≤ 4 = non-zero or room left)
  deriving Repr

def plainEff (x : Nat) : Option Eff :=
  if x = xReadSlashR then some { cs := true, np := 2, needZ := 4 }
  else if isReadI x then some { cs := true }
  else if readCWidth x ≠ 0 then some { rd := readCWidth x, cs := true, needCons := true }
  else if x = xArgPtr16colon16 ∨ x = xArgPtr16colon32 then some { dn := 2 }
  else if isOneArg x then
    some { dn := 1
           static := (if x ∈ fixedOps then decide (x < fixedArg.size) else true)
              && (if x ∈ memOps ∨ x ∈ moffsOps ∨ x ∈ rmOps then decide (x < len_memBytes) else true)
              && (if x = xArgYmm1 ∨ x ∈ regopOps ∨ x ∈ mmOps ∨ x ∈ rmfOps ∨ x ∈ opregOps ∨ x ∈ rmOps ∨ x = xArgMm2 ∨ x = xArgXmm2
                  then decide (x < baseReg.size) else true)
           needImmcw := if x = xArgRel8 then 1 else if x = xArgRel16 then 2 else if x = xArgRel32 then 4 else 0
           needZ := if x = xArgRel8 ∨ x = xArgRel16 ∨ x = xArgRel32 then 0 else 15 }
  else none

def plainOK (c : Cert) (x next : Nat) : Bool :=
  match plainEff x with
  | none => false
  | some e => (!e.needCons || c.cons) && decide (e.needImmcw ≤ c.immcw) && e.static && decide (c.z ≤ e.needZ)
      && edgeOK c e.dn e.rd e.cs false e.np next

def instrOK (c : Cert) : Instr → Bool
  | .fail => true
  | .match_ => c.cons
  | .jump t => edgeOK c 0 0 false false 0 t
  | .condByte ents fall _ => ents.all (fun e => edgeOK c 0 0 true (e.1 % 256 != 0) 1 e.2) && edgeOK c 0 0 false false 0 fall
  | .condIs64 t => edgeOK c 0 0 false false 0 t
  | .condIsMem a b => c.cons && edgeOK c 0 0 false false 0 a && edgeOK c 0 0 false false 0 b
  | .condDataSize a b d => edgeOK c 0 0 false false 0 a && edgeOK c 0 0 false false 0 b && edgeOK c 0 0 false false 0 d
  | .condAddrSize a b d => edgeOK c 0 0 false false 0 a && edgeOK c 0 0 false false 0 b && edgeOK c 0 0 false false 0 d
  | .condPrefix ents => ents.all (fun e => edgeOK c 0 0 false false 0 e.2)
  | .condSlashR ts => decide (c.z ≤ 4) && decide (ts.length = 8) && ts.all (fun t => edgeOK c 0 0 true false 2 t)
  | .setOp _ next => edgeOK c 0 0 false false 0 next
  | .plain x next => plainOK c x next
  | .bad _ => false

/-- the table is fine at `pc`: either no claim is made there, or the instruction fetches and every edge respects the certificate -/
def okAt (pc : Nat) : Bool :=
  match cert? pc with
  | none => true
  | some c => match fetch pc with
    | none => false
    | some i => instrOK c i

def chunkOK (k : Nat) : Bool := (List.range 256).all (fun j => okAt (256 * k + j))

/-- the entry point carries a certificate whose claims hold of the initial state -/
def entryOK : Bool :=
  match cert? 1 with
  | some c => decide (c.rank < fuel0) && decide (c.immcw = 0) && !c.cons
  | none => false

end X86Dec
