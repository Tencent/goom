import GoomVerif.Model.Conc
/-! Lemmas for C11: one scheduler slot of `Conc.step` read as "stutter, or one enabled action" of the shape
    `setTh (eff s) t (next (s.th t))`, and the invariants of the lock-level model proved action by action. -/
namespace Conc

theorem th_setTh (s : St) (t u h) : (setTh s t h).th u = if u = t then h else s.th u := rfl

@[simp] theorem setTh_th_same (s : St) (t h) : (setTh s t h).th t = h := by simp [th_setTh]
theorem setTh_th_other (s : St) (t u h) (hu : u ≠ t) : (setTh s t h).th u = s.th u := by simp [th_setTh, hu]
@[simp] theorem setTh_lockP (s : St) (t h) : (setTh s t h).lockP = s.lockP := rfl
@[simp] theorem setTh_lockM (s : St) (t h) : (setTh s t h).lockM = s.lockM := rfl
@[simp] theorem setTh_perm (s : St) (t h) : (setTh s t h).perm = s.perm := rfl
@[simp] theorem setTh_text (s : St) (t h) : (setTh s t h).text = s.text := rfl
@[simp] theorem setTh_patches (s : St) (t h) : (setTh s t h).patches = s.patches := rfl
@[simp] theorem setTh_acc (s : St) (t h) : (setTh s t h).acc = s.acc := rfl
@[simp] theorem setTh_calls (s : St) (t h) : (setTh s t h).calls = s.calls := rfl
@[simp] theorem setTh_faults (s : St) (t h) : (setTh s t h).faults = s.faults := rfl
@[simp] theorem logAcc_lockP (s : St) (t v w) : (logAcc s t v w).lockP = s.lockP := rfl
@[simp] theorem logAcc_lockM (s : St) (t v w) : (logAcc s t v w).lockM = s.lockM := rfl
@[simp] theorem logAcc_perm (s : St) (t v w) : (logAcc s t v w).perm = s.perm := rfl
@[simp] theorem logAcc_text (s : St) (t v w) : (logAcc s t v w).text = s.text := rfl
@[simp] theorem logAcc_patches (s : St) (t v w) : (logAcc s t v w).patches = s.patches := rfl
@[simp] theorem logAcc_th (s : St) (t v w) : (logAcc s t v w).th = s.th := rfl
@[simp] theorem logAcc_calls (s : St) (t v w) : (logAcc s t v w).calls = s.calls := rfl
@[simp] theorem logAcc_faults (s : St) (t v w) : (logAcc s t v w).faults = s.faults := rfl

@[simp] theorem execW_frame (L t k ws s) :
    (execW L t k ws s).lockP = s.lockP ∧ (execW L t k ws s).lockM = s.lockM ∧ (execW L t k ws s).th = s.th ∧
    (execW L t k ws s).patches = s.patches ∧ (execW L t k ws s).calls = s.calls := by
  cases ws with
  | prot pg p => exact ⟨rfl, rfl, rfl, rfl, rfl⟩
  | copy =>
    cases k with
    | tramp f => exact ⟨rfl, rfl, rfl, rfl, rfl⟩
    | _ => simp only [execW]; split <;> exact ⟨rfl, rfl, rfl, rfl, rfl⟩

@[simp] theorem execT_frame (t mi s) :
    (execT t mi s).lockP = s.lockP ∧ (execT t mi s).lockM = s.lockM ∧ (execT t mi s).th = s.th ∧
    (execT t mi s).perm = s.perm ∧ (execT t mi s).text = s.text ∧ (execT t mi s).calls = s.calls := by
  cases mi with
  | setApplied f => simp only [execT]; split <;> exact ⟨rfl, rfl, rfl, rfl, rfl, rfl⟩
  | _ => exact ⟨rfl, rfl, rfl, rfl, rfl, rfl⟩

@[simp] theorem execW_th (L t k ws s) : (execW L t k ws s).th = s.th := (execW_frame L t k ws s).2.2.1
@[simp] theorem execW_patches (L t k ws s) : (execW L t k ws s).patches = s.patches := (execW_frame L t k ws s).2.2.2.1
@[simp] theorem execT_th (t mi s) : (execT t mi s).th = s.th := (execT_frame t mi s).2.2.1
@[simp] theorem execT_perm (t mi s) : (execT t mi s).perm = s.perm := (execT_frame t mi s).2.2.2.1
@[simp] theorem execT_text (t mi s) : (execT t mi s).text = s.text := (execT_frame t mi s).2.2.2.2.1

/-- what a slot does when it does not stutter, with the position (section, micro instruction `k`, phase `j`) -/
inductive Act
  | call (f a : Nat)
  | retab (f : Loc)
  | acqP (sec : Sec)
  | relP (sec : Sec) (k : Nat)
  | wskip (sec : Sec) (k : Nat) (wk : WKind)
  | acqM (sec : Sec) (k : Nat) (wk : WKind)
  | relM (sec : Sec) (k : Nat) (wk : WKind) (j : Nat)
  | wph (sec : Sec) (k : Nat) (wk : WKind) (j : Nat) (ws : WStep)
  | tab (sec : Sec) (k : Nat) (mi : MI)

def Act.eff (L : Layout) (t : Tid) (s : St) : Act → St
  | .call f a => { s with calls := (t, (s.th t).ip, callAt L s f a) :: s.calls }
  | .retab f => { s with patches := upd s.patches f ((s.patches f).map retabG), text := upd s.text f (retabC (s.text f)) }
  | .acqP _ => { s with lockP := some t }
  | .relP _ _ => { s with lockP := none }
  | .wskip _ _ _ => logAcc s t .patches false
  | .acqM _ _ _ => { logAcc s t .patches false with lockM := some t }
  | .relM _ _ _ _ => { s with lockM := none }
  | .wph _ _ wk _ ws => execW L t wk ws s
  | .tab _ _ mi => execT t mi s

def Act.next (h : Th) : Act → Th
  | .call _ _ => { h with ip := h.ip + 1 }
  | .retab _ => { h with ip := h.ip + 1 }
  | .acqP _ => { h with cur := some 0 }
  | .relP _ _ => { ip := h.ip + 1, cur := none, w := none }
  | .wskip _ k _ => { h with cur := some (k + 1) }
  | .acqM _ _ _ => { h with w := some 0 }
  | .relM _ k _ _ => { h with cur := some (k + 1), w := none }
  | .wph _ _ _ j _ => { h with w := some (j + 1) }
  | .tab _ k _ => { h with cur := some (k + 1) }

def Act.exec (L : Layout) (t : Tid) (a : Act) (s : St) : St := setTh (a.eff L t s) t (a.next (s.th t))

def AtMI (prog : Tid → List Sec) (t : Tid) (s : St) (sec : Sec) (k : Nat) (mi : MI) : Prop :=
  (prog t)[(s.th t).ip]? = some sec ∧ (s.th t).cur = some k ∧ (bodyOf sec)[k]? = some mi

def Can (L : Layout) (prog : Tid → List Sec) (t : Tid) (s : St) : Act → Prop
  | .call f a => (prog t)[(s.th t).ip]? = some (.call f a) ∧ (s.th t).cur = none
  | .retab f => (prog t)[(s.th t).ip]? = some (.retab f) ∧ (s.th t).cur = none
  -- `bodyOf sec ≠ []` stands for "neither `call` nor `retab`": the catch-all branch of `step`
  | .acqP sec => (prog t)[(s.th t).ip]? = some sec ∧ (s.th t).cur = none ∧ bodyOf sec ≠ [] ∧ s.lockP = none
  | .relP sec k => (prog t)[(s.th t).ip]? = some sec ∧ (s.th t).cur = some k ∧ (bodyOf sec)[k]? = none
  | .wskip sec k wk => AtMI prog t s sec k (.write wk) ∧ (s.th t).w = none ∧ wcond (logAcc s t .patches false) wk = false
  | .acqM sec k wk => AtMI prog t s sec k (.write wk) ∧ (s.th t).w = none ∧ wcond (logAcc s t .patches false) wk = true ∧
      s.lockM = none
  | .relM sec k wk j => AtMI prog t s sec k (.write wk) ∧ (s.th t).w = some j ∧ (wscript L wk)[j]? = none
  | .wph sec k wk j ws => AtMI prog t s sec k (.write wk) ∧ (s.th t).w = some j ∧ (wscript L wk)[j]? = some ws
  | .tab sec k mi => AtMI prog t s sec k mi ∧ ∀ wk, mi ≠ .write wk

variable {L : Layout} {prog : Tid → List Sec} {t : Tid} {s : St} {a : Act}

theorem step_can (hc : Can L prog t s a) : step L prog t s = a.exec L t s := by
  unfold step
  cases a with
  | call f a => obtain ⟨h1, h2⟩ := hc; simp only [h1, h2, Act.exec, Act.eff, Act.next]
  | retab f => obtain ⟨h1, h2⟩ := hc; simp only [h1, h2, Act.exec, Act.eff, Act.next]
  | acqP sec =>
    obtain ⟨h1, h2, h3, h4⟩ := hc
    simp only [h1, h2, h4, Act.exec, Act.eff, Act.next]
    cases sec <;> first | rfl | exact absurd rfl h3
  | relP sec k => obtain ⟨h1, h2, h3⟩ := hc; simp only [h1, h2, h3, Act.exec, Act.eff, Act.next]
  | wskip sec k wk =>
    obtain ⟨⟨h1, h2, h3⟩, h4, h5⟩ := hc
    simp only [h1, h2, h3, h4, h5, Act.exec, Act.eff, Act.next, Bool.false_eq_true, if_false]
  | acqM sec k wk =>
    obtain ⟨⟨h1, h2, h3⟩, h4, h5, h6⟩ := hc
    simp only [h1, h2, h3, h4, h5, h6, Act.exec, Act.eff, Act.next, if_true]
  | relM sec k wk j =>
    obtain ⟨⟨h1, h2, h3⟩, h4, h5⟩ := hc; simp only [h1, h2, h3, h4, h5, Act.exec, Act.eff, Act.next]
  | wph sec k wk j ws =>
    obtain ⟨⟨h1, h2, h3⟩, h4, h5⟩ := hc; simp only [h1, h2, h3, h4, h5, Act.exec, Act.eff, Act.next]
  | tab sec k mi =>
    obtain ⟨⟨h1, h2, h3⟩, h4⟩ := hc
    simp only [h1, h2, h3, Act.exec, Act.eff, Act.next]

theorem step_cases (L prog t s) : step L prog t s = s ∨ ∃ a, Can L prog t s a := by
  unfold step
  simp only []
  split
  · exact .inl rfl
  · rename_i sec h1
    split
    · rename_i h2
      split
      · exact .inr ⟨.call _ _, h1, h2⟩
      · exact .inr ⟨.retab _, h1, h2⟩
      · split
        · rename_i hc hr h4
          refine .inr ⟨.acqP sec, h1, h2, ?_, h4⟩
          cases sec <;> simp_all [bodyOf]
        · exact .inl rfl
    · rename_i k h2
      split
      · rename_i h3; exact .inr ⟨.relP sec k, h1, h2, h3⟩
      · rename_i wk h3
        split
        · rename_i h4
          split
          · rename_i h5
            split
            · rename_i h6; exact .inr ⟨.acqM sec k wk, ⟨h1, h2, h3⟩, h4, h5, h6⟩
            · exact .inl rfl
          · rename_i h5; exact .inr ⟨.wskip sec k wk, ⟨h1, h2, h3⟩, h4, by simpa using h5⟩
        · rename_i j h4
          split
          · rename_i h5; exact .inr ⟨.relM sec k wk j, ⟨h1, h2, h3⟩, h4, h5⟩
          · rename_i ws h5; exact .inr ⟨.wph sec k wk j ws, ⟨h1, h2, h3⟩, h4, h5⟩
      · rename_i mi hn h3
        exact .inr ⟨.tab sec k mi, ⟨h1, h2, h3⟩, fun wk e => hn wk e⟩

theorem step_ind {P : St → Prop} (h0 : P s) (h : ∀ a, Can L prog t s a → P (a.exec L t s)) : P (step L prog t s) := by
  rcases step_cases L prog t s with e | ⟨a, hc⟩
  · rw [e]; exact h0
  · rw [step_can hc]; exact h a hc

theorem run_ind {P : St → Prop} (σ : List Tid) (h : ∀ u ∈ σ, ∀ s a, Can L prog u s a → P s → P (a.exec L u s))
    {s : St} (h0 : P s) : P (run L prog σ s) := by
  induction σ generalizing s with
  | nil => exact h0
  | cons u σ ih =>
    exact ih (fun v hv => h v (List.mem_cons_of_mem _ hv))
      (step_ind h0 (fun a hc => h u List.mem_cons_self s a hc h0))

@[simp] theorem eff_th (L t s) (a : Act) : (a.eff L t s).th = s.th := by
  cases a <;> first | rfl | exact execW_th .. | exact execT_th ..

theorem exec_th (L t s) (a : Act) (u : Tid) : (a.exec L t s).th u = if u = t then a.next (s.th t) else s.th u := by
  rw [Act.exec, th_setTh, eff_th]

def AccOk (l : List Acc) : Prop := ∀ a ∈ l, a.holdsP = true ∧ (a.v ≠ .patches → a.holdsM = true)

/-- lock discipline: a thread is inside a section (`cur`) exactly while it holds `patchesLock`, inside `WriteTo` (`w`) exactly
    while it holds `memoryAccessLock`, then it stands at a write inside a section, and every logged access was well-locked -/
structure LInv (prog : Tid → List Sec) (s : St) : Prop where
  mp : ∀ t, (s.th t).cur.isSome = true → s.lockP = some t
  mpc : ∀ t, s.lockP = some t → (s.th t).cur.isSome = true
  mm : ∀ t, (s.th t).w.isSome = true → s.lockM = some t ∧ (s.th t).cur.isSome = true
  mmc : ∀ t, s.lockM = some t → (s.th t).w.isSome = true
  wpos : ∀ t, (s.th t).w.isSome = true → ∃ sec k wk, (prog t)[(s.th t).ip]? = some sec ∧ (s.th t).cur = some k ∧ (bodyOf sec)[k]? = some (.write wk)
  accOk : AccOk s.acc

theorem AccOk_logAcc {v : Var} {w : Bool} (h : AccOk s.acc) (hP : s.lockP = some t)
    (hM : v = .patches ∨ s.lockM = some t ∨ (w = false ∧ s.lockM = none)) : AccOk (logAcc s t v w).acc := by
  intro b hb
  rcases List.mem_cons.1 hb with rfl | hb
  · refine ⟨by simp [hP], fun hv => ?_⟩
    rcases hM with hM | hM | ⟨rfl, hM⟩
    · exact absurd hM hv
    · simp [hM]
    · simp [hM]
  · exact h b hb

theorem execW_acc (L k ws) (hP : s.lockP = some t) (hM : s.lockM = some t) (h : AccOk s.acc) :
    AccOk (execW L t k ws s).acc := by
  cases ws with
  | prot pg p => exact AccOk_logAcc (s := { s with perm := upd s.perm pg p }) h hP (.inr (.inl hM))
  | copy =>
    have h' : AccOk (logAcc s t .text true).acc := AccOk_logAcc h hP (.inr (.inl hM))
    cases k with
    | tramp f => exact h'
    | _ => simp only [execW]; split <;> exact h'

theorem execT_acc (mi) (hP : s.lockP = some t) (hM : s.lockM = none ∨ s.lockM = some t) (h : AccOk s.acc) :
    AccOk (execT t mi s).acc := by
  cases mi with
  | unregister f => exact AccOk_logAcc (s := { s with patches := upd s.patches f none }) h hP (.inl rfl)
  | register f r =>
    exact AccOk_logAcc (s := logAcc s t .patches true) (AccOk_logAcc h hP (.inl rfl)) hP
      (.inr (hM.elim (fun e => .inr ⟨rfl, e⟩) .inl))
  | setApplied f =>
    have h' : AccOk (logAcc s t .patches true).acc := AccOk_logAcc h hP (.inl rfl)
    simp only [execT]; split <;> exact h'
  | write k => exact h

theorem LInv_setTh {s1 : St} {h' : Th} (I : LInv prog s) (hth : s1.th = s.th)
    (hP : ∀ u, u ≠ t → (s1.lockP = some u ↔ s.lockP = some u)) (hPt : s1.lockP = some t ↔ h'.cur.isSome = true)
    (hM : ∀ u, u ≠ t → (s1.lockM = some u ↔ s.lockM = some u)) (hMt : s1.lockM = some t ↔ h'.w.isSome = true)
    (hw : h'.w.isSome = true → ∃ sec k wk, (prog t)[h'.ip]? = some sec ∧ h'.cur = some k ∧ (bodyOf sec)[k]? = some (.write wk))
    (hacc : AccOk s1.acc) : LInv prog (setTh s1 t h') := by
  have other : ∀ u, u ≠ t → (setTh s1 t h').th u = s.th u := fun u hu => by rw [setTh_th_other _ _ _ _ hu, hth]
  refine ⟨fun u => ?_, fun u => ?_, fun u => ?_, fun u => ?_, fun u => ?_, hacc⟩
  all_goals by_cases hu : u = t
  all_goals first | subst hu; rw [setTh_th_same] | rw [other u hu]
  · exact hPt.2
  · exact fun h => (hP u hu).2 (I.mp u h)
  · exact hPt.1
  · exact fun h => I.mpc u ((hP u hu).1 h)
  · exact fun h => ⟨hMt.2 h, by obtain ⟨_, _, _, _, e, _⟩ := hw h; rw [e]; rfl⟩
  · exact fun h => ⟨(hM u hu).2 (I.mm u h).1, (I.mm u h).2⟩
  · exact hMt.1
  · exact fun h => I.mmc u ((hM u hu).1 h)
  · exact hw
  · exact I.wpos u

theorem w_none_of_cur_none (LI : LInv prog s) (h : (s.th t).cur = none) : (s.th t).w = none := by
  cases hw : (s.th t).w with
  | none => rfl
  | some j => have := (LI.mm t (by rw [hw]; rfl)).2; rw [h] at this; cases this

theorem w_none_of_tab (LI : LInv prog s) {sec k mi} (h : AtMI prog t s sec k mi) (h4 : ∀ wk, mi ≠ .write wk) :
    (s.th t).w = none := by
  cases hw : (s.th t).w with
  | none => rfl
  | some j =>
    obtain ⟨sec', k', wk, e1, e2, e3⟩ := LI.wpos t (by rw [hw]; rfl)
    rw [h.1] at e1; cases e1; rw [h.2.1] at e2; cases e2
    exact absurd (Option.some.inj (h.2.2.symm.trans e3)) (h4 wk)

theorem LInv_exec (I : LInv prog s) (hc : Can L prog t s a) : LInv prog (a.exec L t s) := by
  have hP : s.lockP = some t ↔ (s.th t).cur.isSome = true := ⟨I.mpc t, I.mp t⟩
  have hM : s.lockM = some t ↔ (s.th t).w.isSome = true := ⟨I.mmc t, fun h => (I.mm t h).1⟩
  have hl : ∀ {k}, (s.th t).cur = some k → s.lockP = some t := fun e => hP.2 (by rw [e]; rfl)
  have hm : ∀ {j}, (s.th t).w = some j → s.lockM = some t := fun e => hM.2 (by rw [e]; rfl)
  have idle : (s.th t).cur = none → (s.th t).w.isSome = true → False := fun e h => by
    rw [w_none_of_cur_none I e] at h; cases h
  cases a with
  | call f a | retab f =>
    exact LInv_setTh I rfl (fun _ _ => .rfl) hP (fun _ _ => .rfl) hM (fun h => (idle hc.2 h).elim) I.accOk
  | acqP sec =>
    obtain ⟨h1, h2, h3, h4⟩ := hc
    exact LInv_setTh I rfl (fun u hu => by simp [Act.eff, h4, Ne.symm hu]) (by simp [Act.eff, Act.next])
      (fun _ _ => .rfl) hM (fun h => (idle h2 h).elim) I.accOk
  | relP sec k =>
    obtain ⟨h1, h2, h3⟩ := hc
    -- the section's body is exhausted, so the thread is not at a write
    have hm' : ¬ s.lockM = some t := fun e => by
      obtain ⟨sec', k', wk, e1, e2, e3⟩ := I.wpos t (hM.1 e)
      rw [h1] at e1; cases e1; rw [h2] at e2; cases e2; rw [h3] at e3; cases e3
    exact LInv_setTh I rfl (fun u hu => by simp [Act.eff, hl h2, Ne.symm hu]) (by simp [Act.eff, Act.next])
      (fun _ _ => .rfl) (by simp [Act.eff, Act.next, hm']) (by simp [Act.next]) I.accOk
  | wskip sec k wk =>
    obtain ⟨h, h4, h5⟩ := hc
    exact LInv_setTh I rfl (fun _ _ => .rfl) (by simp [Act.eff, Act.next, hl h.2.1]) (fun _ _ => .rfl) hM
      (by simp [Act.next, h4]) (AccOk_logAcc I.accOk (hl h.2.1) (.inl rfl))
  | acqM sec k wk =>
    obtain ⟨h, h4, h5, h6⟩ := hc
    exact LInv_setTh I rfl (fun _ _ => .rfl) hP (fun u hu => by simp [Act.eff, h6, Ne.symm hu]) (by simp [Act.eff, Act.next])
      (fun _ => ⟨sec, k, wk, h⟩) (AccOk_logAcc I.accOk (hl h.2.1) (.inl rfl))
  | relM sec k wk j =>
    obtain ⟨h, h4, h5⟩ := hc
    exact LInv_setTh I rfl (fun _ _ => .rfl) (by simp [Act.eff, Act.next, hl h.2.1])
      (fun u hu => by simp [Act.eff, hm h4, Ne.symm hu]) (by simp [Act.eff, Act.next]) (by simp [Act.next]) I.accOk
  | wph sec k wk j ws =>
    obtain ⟨h, h4, h5⟩ := hc
    exact LInv_setTh I (execW_th ..) (fun _ _ => by simp [Act.eff]) (by simpa [Act.eff, Act.next] using hP)
      (fun _ _ => by simp [Act.eff]) (by simp [Act.eff, Act.next, hm h4])
      (fun _ => ⟨sec, k, wk, h⟩) (execW_acc L wk ws (hl h.2.1) (hm h4) I.accOk)
  | tab sec k mi =>
    obtain ⟨h, h4⟩ := hc
    have hw : (s.th t).w = none := w_none_of_tab I h h4
    -- whoever holds `memoryAccessLock` is inside `WriteTo`, hence inside a section, hence holds `patchesLock`: it is `t`
    have hm' : s.lockM = none ∨ s.lockM = some t := by
      cases e : s.lockM with
      | none => exact .inl rfl
      | some u =>
        have := I.mp u (I.mm u (I.mmc u e)).2
        rw [hl h.2.1] at this; cases this; exact .inr rfl
    exact LInv_setTh I (execT_th ..) (fun _ _ => by simp [Act.eff]) (by simp [Act.eff, Act.next, hl h.2.1])
      (fun _ _ => by simp [Act.eff]) (by simpa [Act.eff, Act.next] using hM) (by simp [Act.next, hw])
      (execT_acc mi (hl h.2.1) hm' I.accOk)

theorem LInv_run (L prog) (σ : List Tid) (s : St) (I : LInv prog s) : LInv prog (run L prog σ s) :=
  run_ind σ (fun _ _ _ _ hc I => LInv_exec I hc) I

def MI.loc (L : Layout) : MI → Loc
  | .unregister f => f
  | .register f _ => f
  | .setApplied f => f
  | .write wk => wloc L wk

def updO {α : Type} (m : Nat → α) (k : Nat) : Option α → Nat → α
  | some v => upd m k v
  | none => m

theorem updO_other {α} {m : Nat → α} {k i : Nat} {o : Option α} (h : i ≠ k) : updO m k o i = m i := by
  cases o with
  | none => rfl
  | some v => exact upd_other m k i v h

@[simp] theorem updO_same {α} (m : Nat → α) (k : Nat) (v : α) : updO m k (some v) k = v := upd_same m k v

theorem updO_congr {α} {m m' : Nat → α} {g : Nat} (h : m g = m' g) (k : Nat) (o : Option α) : updO m k o g = updO m' k o g := by
  cases o with
  | none => exact h
  | some v => show (if g = k then v else m g) = (if g = k then v else m' g); rw [h]

/-- the content a phase of `WriteTo` stores at `wloc L k` (`copy` without a guard stores nothing: a fault) -/
def wval (s : St) : WKind → WStep → Option Content
  | _, .prot _ _ => none
  | .jump f, .copy => (s.patches f).map (fun g => .jump g.repl)
  | .restore f, .copy => (s.patches f).map (·.originBytes)
  | .tramp f, .copy => some (.reloc f)

def tval (s : St) : MI → Option (Option Guard)
  | .unregister _ => some none
  | .register f r => some (some { repl := r, originBytes := s.text f, applied := false })
  | .setApplied f => (s.patches f).map (fun g => some { g with applied := true })
  | .write _ => none

theorem execW_text (L t k ws s) : (execW L t k ws s).text = updO s.text (wloc L k) (wval s k ws) := by
  cases ws with
  | prot pg p => rfl
  | copy => cases k <;> simp only [execW, wval, logAcc_patches] <;> first | rfl | (cases s.patches _ <;> rfl)

theorem execT_patches (L : Layout) (t mi s) : (execT t mi s).patches = updO s.patches (mi.loc L) (tval s mi) := by
  cases mi with
  | setApplied f => simp only [execT, tval, logAcc_patches]; cases s.patches f <;> rfl
  | _ => rfl

theorem body_loc (L : Layout) {sec : Sec} {mi : MI} (h : mi ∈ bodyOf sec) : mi.loc L ∈ writesOf L sec := by
  cases sec with
  | replace f r wo =>
    cases wo <;> simp only [bodyOf, List.mem_append, List.mem_cons, List.not_mem_nil, or_false, if_true, if_false,
      Bool.false_eq_true] at h
    · rcases h with rfl | rfl | rfl <;> simp [MI.loc, wloc, writesOf]
    · rcases h with (rfl | rfl | rfl) | rfl <;> simp [MI.loc, wloc, writesOf]
  | apply f => simp only [bodyOf, List.mem_cons, List.not_mem_nil, or_false] at h; rcases h with rfl | rfl <;> simp [MI.loc, wloc, writesOf]
  | unpatch f => simp only [bodyOf, List.mem_cons, List.not_mem_nil, or_false] at h; subst h; simp [MI.loc, wloc, writesOf]
  | call f a => cases h
  | retab f => cases h

theorem writes_sub_mentions (L : Layout) (sec : Sec) (f : Loc) (h : f ∈ writesOf L sec) : f ∈ mentionsOf L sec := by
  cases sec with
  | replace f' r wo => cases wo <;> simp_all [writesOf, mentionsOf]
  | call f' a => cases h
  | _ => simp_all [writesOf, mentionsOf]

theorem AtMI.writes (L : Layout) {sec k mi} (h : AtMI prog t s sec k mi) : Writes L prog t (mi.loc L) :=
  ⟨sec, List.mem_of_getElem? h.1, body_loc L (List.mem_of_getElem? h.2.2)⟩

theorem Writes.mentions {f : Loc} (h : Writes L prog t f) : Mentions L prog t f :=
  h.elim fun sec h => ⟨sec, h.1, writes_sub_mentions L sec f h.2⟩

theorem AtMI.mentions (L : Layout) {sec k mi} (h : AtMI prog t s sec k mi) : Mentions L prog t (mi.loc L) :=
  (h.writes L).mentions

theorem frame_exec (hc : Can L prog t s a) {f : Loc} (hf : ¬ Writes L prog t f) :
    (a.exec L t s).text f = s.text f ∧ (a.exec L t s).patches f = s.patches f := by
  cases a with
  | retab f' =>
    have e : f ≠ f' := fun e => hf ⟨_, List.mem_of_getElem? hc.1, by simp [writesOf, e]⟩
    exact ⟨upd_other _ _ _ _ e, upd_other _ _ _ _ e⟩
  | wph sec k wk j ws =>
    have e : f ≠ wloc L wk := fun e => hf (e ▸ hc.1.writes L)
    exact ⟨(congrFun (execW_text L t wk ws s) f).trans (updO_other e), by simp [Act.exec, Act.eff]⟩
  | tab sec k mi =>
    have e : f ≠ mi.loc L := fun e => hf (e ▸ hc.1.writes L)
    exact ⟨by simp [Act.exec, Act.eff], (congrFun (execT_patches L t mi s) f).trans (updO_other e)⟩
  | _ => exact ⟨rfl, rfl⟩

theorem frame_run (σ : List Tid) {f : Loc} (hf : ∀ u ∈ σ, ¬ Writes L prog u f) (s : St) :
    (run L prog σ s).text f = s.text f ∧ (run L prog σ s).patches f = s.patches f :=
  run_ind (P := fun s' => s'.text f = s.text f ∧ s'.patches f = s.patches f) σ
    (fun u hu s1 a hc h => by rw [(frame_exec hc (hf u hu)).1, (frame_exec hc (hf u hu)).2]; exact h) ⟨rfl, rfl⟩

def XInv (s : St) : Prop := ∀ pg, (s.perm pg).x = true

/-- the protections the WriteTo script installs all contain x (a fact about the SCRIPT `wscript`, i.e. about the
    constants at mwrite_amd64.go:24,32, not about the step semantics) -/
theorem wscript_x (L : Layout) (wk : WKind) (j : Nat) (pg : Nat) (p : Perm) (h : (wscript L wk)[j]? = some (.prot pg p)) : p.x = true := by
  have hm := List.mem_of_getElem? h
  simp only [wscript, List.mem_append, List.mem_map, List.mem_cons, List.not_mem_nil, or_false] at hm
  rcases hm with (⟨a, _, e⟩ | e) | ⟨a, _, e⟩
  · injection e with _ e; subst e; rfl
  · cases e
  · injection e with _ e; subst e; rfl

theorem XInv_exec (hc : Can L prog t s a) (h : XInv s) : XInv (a.exec L t s) := by
  cases a with
  | wph sec k wk j ws =>
    cases ws with
    | prot pg' p =>
      intro pg
      show (upd s.perm pg' p pg).x = true
      unfold upd; split
      · exact wscript_x L wk j pg' p hc.2.2
      · exact h pg
    | copy =>
      have e : (execW L t wk .copy s).perm = s.perm := by
        cases wk <;> simp only [execW] <;> first | rfl | (split <;> rfl)
      exact fun pg => by simp only [Act.exec, Act.eff, setTh_perm, e]; exact h pg
  | tab sec k mi => exact fun pg => by simp only [Act.exec, Act.eff, setTh_perm, execT_perm]; exact h pg
  | _ => exact h

theorem XInv_run (L prog) (σ : List Tid) (s : St) (h : XInv s) : XInv (run L prog σ s) :=
  run_ind σ (fun _ _ _ _ hc h => XInv_exec hc h) h

theorem allX_of_XInv (s : St) (h : XInv s) (pgs) : allX s pgs = true :=
  List.all_eq_true.2 (fun pg _ => h pg)

theorem callAt_congr (L : Layout) {s s0 : St} {f : Nat} (a : Nat) (hx : XInv s) (hx0 : XInv s0) (h1 : s.text f = s0.text f)
    (h2 : s.text (L.plh f) = s0.text (L.plh f)) : callAt L s f a = callAt L s0 f a := by
  simp only [callAt, allX_of_XInv s hx, allX_of_XInv s0 hx0, h1, h2]

theorem exec_calls (L t s) (a : Act) :
    (a.exec L t s).calls = match a with
      | .call f x => (t, (s.th t).ip, callAt L s f x) :: s.calls
      | _ => s.calls := by
  cases a <;> simp [Act.exec, Act.eff]

structure CInv (L : Layout) (prog : Tid → List Sec) (s0 s : St) : Prop where
  x : XInv s
  txt : ∀ f, (∀ u, ¬ Writes L prog u f) → s.text f = s0.text f
  calls : ∀ c ∈ s.calls, ∃ f a, (prog c.1)[c.2.1]? = some (.call f a) ∧
      ((∀ u, ¬ Writes L prog u f) → (∀ u, ¬ Writes L prog u (L.plh f)) → c.2.2 = callAt L s0 f a)

theorem CInv_exec {s0 : St} (hx0 : XInv s0) (hc : Can L prog t s a) (I : CInv L prog s0 s) : CInv L prog s0 (a.exec L t s) := by
  refine ⟨XInv_exec hc I.x, fun f hf => by rw [(frame_exec hc (hf t)).1]; exact I.txt f hf, ?_⟩
  rw [exec_calls]
  cases a with
  | call f x =>
    intro c hc'
    rcases List.mem_cons.1 hc' with rfl | hc'
    · exact ⟨f, x, hc.1, fun n1 n2 => callAt_congr L x I.x hx0 (I.txt f n1) (I.txt _ n2)⟩
    · exact I.calls c hc'
  | _ => exact I.calls

theorem CInv_run (σ : List Tid) (s0 : St) (hx0 : XInv s0) (hc : s0.calls = []) : CInv L prog s0 (run L prog σ s0) :=
  run_ind σ (fun _ _ _ _ hc I => CInv_exec hx0 hc I) ⟨hx0, fun _ _ => rfl, by simp [hc]⟩

def solo (L : Layout) (prog : Tid → List Sec) (t : Tid) : Nat → St → St
  | 0, s => s
  | n + 1, s => solo L prog t n (step L prog t s)

/-- `s` (concurrent world) and `s'` (world in which only `t` ever ran) look the same to thread `t` -/
structure Agree (L : Layout) (prog : Tid → List Sec) (t : Tid) (s s' : St) : Prop where
  th : s.th t = s'.th t
  loc : ∀ f, Mentions L prog t f → s.text f = s'.text f ∧ s.patches f = s'.patches f
  x : XInv s
  x' : XInv s'
  li : LInv prog s
  li' : LInv prog s'
  lp' : s'.lockP = none ∨ s'.lockP = some t
  lm' : s'.lockM = none ∨ s'.lockM = some t

def callsOf (t : Tid) (s : St) : List (Tid × Nat × Option Nat) := s.calls.filter (fun c => c.1 = t)

theorem mentions_of_sec {L : Layout} {prog : Tid → List Sec} {t : Tid} {i : Nat} {sec : Sec} (h : (prog t)[i]? = some sec) (f : Loc) (hf : f ∈ mentionsOf L sec) :
    Mentions L prog t f := ⟨sec, List.mem_of_getElem? h, hf⟩

variable {s' : St}

theorem agree_other {u : Tid} (hd : Disjoint L prog) (hu : u ≠ t) (A : Agree L prog t s s') :
    Agree L prog t (step L prog u s) s' := by
  refine step_ind (P := fun s1 => Agree L prog t s1 s') A (fun a hc => ?_)
  refine ⟨?_, fun f hf => ?_, XInv_exec hc A.x, A.x', LInv_exec A.li hc, A.li', A.lp', A.lm'⟩
  · rw [exec_th, if_neg (Ne.symm hu)]; exact A.th
  · have h := frame_exec hc (fun hw => hd t u f (Ne.symm hu) hw hf)
    rw [h.1, h.2]; exact A.loc f hf

def LocAgree (P : Loc → Prop) (s s' : St) : Prop := ∀ f, P f → s.text f = s'.text f ∧ s.patches f = s'.patches f

variable {P : Loc → Prop}

theorem execW_agree (h : LocAgree P s s') (L : Layout) (wk : WKind) (ws : WStep) (hp : P (wloc L wk)) :
    LocAgree P (execW L t wk ws s) (execW L t wk ws s') := by
  have e : wval s wk ws = wval s' wk ws := by
    cases ws with
    | prot pg p => rfl
    | copy =>
      cases wk with
      | jump f => simp only [wval]; rw [(h f hp).2]
      | restore f => simp only [wval]; rw [(h f hp).2]
      | tramp f => rfl
  intro g hg
  rw [execW_text, execW_text, e, execW_patches, execW_patches]
  exact ⟨updO_congr (h g hg).1 _ _, (h g hg).2⟩

theorem execT_agree (h : LocAgree P s s') (L : Layout) (mi : MI) (hp : P (mi.loc L)) :
    LocAgree P (execT t mi s) (execT t mi s') := by
  have e : tval s mi = tval s' mi := by
    cases mi with
    | register f r => simp only [tval]; rw [(h f hp).1]
    | setApplied f => simp only [tval]; rw [(h f hp).2]
    | _ => rfl
  intro g hg
  rw [execT_text, execT_text, execT_patches L, execT_patches L, e]
  exact ⟨(h g hg).1, updO_congr (h g hg).2 _ _⟩

/-- enabledness depends on what `t` sees, and on a lock being free: in the solo world nobody else holds one -/
theorem can_congr (A : Agree L prog t s s') (hc : Can L prog t s a) : Can L prog t s' a := by
  have lockP_free : (s.th t).cur = none → s'.lockP = none := fun h2 =>
    A.lp'.elim id (fun h => by have := A.li'.mpc t h; rw [← A.th, h2] at this; cases this)
  have lockM_free : (s.th t).w = none → s'.lockM = none := fun h4 =>
    A.lm'.elim id (fun h => by have := A.li'.mmc t h; rw [← A.th, h4] at this; cases this)
  have wc : ∀ {sec k wk}, AtMI prog t s sec k (.write wk) →
      wcond (logAcc s' t .patches false) wk = wcond (logAcc s t .patches false) wk := fun {_ _ wk} h => by
    cases wk with
    | restore f => simp only [wcond, logAcc_patches]; rw [(A.loc f (h.mentions L)).2]
    | _ => rfl
  cases a <;> simp only [Can, AtMI, ← A.th] at hc ⊢
  case acqP sec => exact ⟨hc.1, hc.2.1, hc.2.2.1, lockP_free hc.2.1⟩
  case wskip sec k wk => exact ⟨hc.1, hc.2.1, by rw [wc hc.1]; exact hc.2.2⟩
  case acqM sec k wk => exact ⟨hc.1, hc.2.1, by rw [wc hc.1]; exact hc.2.2.1, lockM_free hc.2.1⟩
  all_goals exact hc

theorem lock_exec (L t s) (a : Act) :
    ((s.lockP = none ∨ s.lockP = some t) → (a.exec L t s).lockP = none ∨ (a.exec L t s).lockP = some t) ∧
    ((s.lockM = none ∨ s.lockM = some t) → (a.exec L t s).lockM = none ∨ (a.exec L t s).lockM = some t) := by
  cases a <;> simp [Act.exec, Act.eff]

theorem agree_exec (A : Agree L prog t s s') (hc : Can L prog t s a) (hc' : Can L prog t s' a) :
    Agree L prog t (a.exec L t s) (a.exec L t s') := by
  refine ⟨?_, ?_, XInv_exec hc A.x, XInv_exec hc' A.x', LInv_exec A.li hc, LInv_exec A.li' hc',
    (lock_exec L t s' a).1 A.lp', (lock_exec L t s' a).2 A.lm'⟩
  · rw [exec_th, exec_th, if_pos rfl, if_pos rfl, A.th]
  · cases a with
    | retab f =>
      intro g hg
      have hf := A.loc f (mentions_of_sec hc.1 f (by simp [mentionsOf]))
      simp only [Act.exec, Act.eff, setTh_text, setTh_patches, hf.1, hf.2]
      exact ⟨updO_congr (A.loc g hg).1 f (some _), updO_congr (A.loc g hg).2 f (some _)⟩
    | wph sec k wk j ws => exact execW_agree A.loc L wk ws (hc.1.mentions L)
    | tab sec k mi => exact execT_agree A.loc L mi (hc.1.mentions L)
    | _ => exact A.loc

theorem callsOf_exec (A : Agree L prog t s s') (hc : Can L prog t s a) :
    ∃ new, callsOf t (a.exec L t s) = new ++ callsOf t s ∧ callsOf t (a.exec L t s') = new ++ callsOf t s' := by
  simp only [callsOf, exec_calls]
  cases a with
  | call f x =>
    have e : callAt L s f x = callAt L s' f x :=
      callAt_congr L x A.x A.x' (A.loc f (mentions_of_sec hc.1 f (by simp [mentionsOf]))).1
        (A.loc _ (mentions_of_sec hc.1 _ (by simp [mentionsOf]))).1
    exact ⟨[(t, (s.th t).ip, callAt L s f x)], by simp, by simp [A.th, e]⟩
  | _ => exact ⟨[], rfl, rfl⟩

theorem callsOf_other {u : Tid} (hu : u ≠ t) : callsOf t (step L prog u s) = callsOf t s := by
  refine step_ind (P := fun s1 => callsOf t s1 = callsOf t s) rfl (fun a _ => ?_)
  simp only [callsOf, exec_calls]
  cases a with
  | call f x => simp [hu]
  | _ => rfl

theorem solo_sim_calls_append (hd : Disjoint L prog) (t : Tid) (σ : List Tid) (s s' : St) (A : Agree L prog t s s') :
    ∃ n new, Agree L prog t (run L prog σ s) (solo L prog t n s') ∧
      callsOf t (run L prog σ s) = new ++ callsOf t s ∧ callsOf t (solo L prog t n s') = new ++ callsOf t s' := by
  induction σ generalizing s s' with
  | nil => exact ⟨0, [], A, rfl, rfl⟩
  | cons u σ ih =>
    by_cases hu : u = t
    · subst hu
      rcases step_cases L prog u s with e | ⟨a, hc⟩
      · rw [run, e]; exact ih s s' A
      · have hc' := can_congr A hc
        obtain ⟨new1, e1, e2⟩ := callsOf_exec A hc
        obtain ⟨n, new, hA, c1, c2⟩ := ih _ _ (agree_exec A hc hc')
        refine ⟨n + 1, new ++ new1, ?_, ?_, ?_⟩
        · rw [run, step_can hc, solo, step_can hc']; exact hA
        · rw [run, step_can hc, c1, e1, List.append_assoc]
        · rw [solo, step_can hc', c2, e2, List.append_assoc]
    · obtain ⟨n, new, hA, c1, c2⟩ := ih _ s' (agree_other hd hu A)
      exact ⟨n, new, hA, by rw [run, c1, callsOf_other hu], c2⟩

theorem solo_sim (L prog) (hd : Disjoint L prog) (t : Tid) (σ : List Tid) (s s' : St) (A : Agree L prog t s s') :
    ∃ n, Agree L prog t (run L prog σ s) (solo L prog t n s') := by
  obtain ⟨n, _, h, _⟩ := solo_sim_calls_append hd t σ s s' A
  exact ⟨n, h⟩

theorem solo_sim_calls (L prog) (hd : Disjoint L prog) (t : Tid) (σ : List Tid) (s s' : St) (A : Agree L prog t s s')
    (hc : callsOf t s = callsOf t s') :
    ∃ n, Agree L prog t (run L prog σ s) (solo L prog t n s') ∧ callsOf t (run L prog σ s) = callsOf t (solo L prog t n s') := by
  obtain ⟨n, new, h, c1, c2⟩ := solo_sim_calls_append hd t σ s s' A
  exact ⟨n, h, by rw [c1, c2, hc]⟩

theorem solo_ind {P : St → Prop} (n : Nat) (h : ∀ s a, Can L prog t s a → P s → P (a.exec L t s)) {s : St} (h0 : P s) :
    P (solo L prog t n s) := by
  induction n generalizing s with
  | zero => exact h0
  | succ n ih => exact ih (step_ind h0 (fun a hc => h s a hc h0))

theorem jump_mi_pos {sec k f} (h : (bodyOf sec)[k]? = some (.write (.jump f))) : sec = .apply f ∧ k = 1 := by
  have hm := List.mem_of_getElem? h
  cases sec with
  | apply f' =>
    match k with
    | 0 => cases h
    | 1 => cases h; exact ⟨rfl, rfl⟩
    | k + 2 => cases h
  | replace f' r wo => cases wo <;> simp [bodyOf] at hm
  | unpatch f' => simp [bodyOf] at hm
  | _ => cases h

theorem table_mi_pos {sec k mi f} (h : (bodyOf sec)[k]? = some mi) (hmi : mi = .unregister f ∨ ∃ r, mi = .register f r) :
    (k = 1 ∨ k = 2) ∧ (bodyOf sec)[0]? = some (.write (.restore f)) := by
  have hm := List.mem_of_getElem? h
  cases sec with
  | replace f' r' wo =>
    match k with
    | 0 => cases h; rcases hmi with e | ⟨_, e⟩ <;> cases e
    | 1 => cases h; rcases hmi with e | ⟨_, e⟩ <;> cases e; exact ⟨.inl rfl, rfl⟩
    | 2 => cases h; rcases hmi with e | ⟨_, e⟩ <;> cases e; exact ⟨.inr rfl, rfl⟩
    | k + 3 => cases wo <;> cases k <;> cases h; rcases hmi with e | ⟨_, e⟩ <;> cases e
  | _ => rcases hmi with rfl | ⟨_, rfl⟩ <;> simp [bodyOf] at hm

theorem no_write_after_restore {sec f k wk} (h0 : (bodyOf sec)[0]? = some (.write (.restore f))) (hk : k = 1 ∨ k = 2)
    (h : (bodyOf sec)[k]? = some (.write wk)) : False := by
  cases sec with
  | replace f' r wo => rcases hk with rfl | rfl <;> cases h
  | unpatch f' => rcases hk with rfl | rfl <;> cases h
  | _ => cases h0

theorem wscript_has_copy (L : Layout) (wk : WKind) : ∃ j : Nat, (wscript L wk)[j]? = some WStep.copy :=
  ⟨(L.pages (wloc L wk)).length, by simp [wscript]⟩

/-- whichever way `write (.restore f)` goes, the text ends pristine: skipped (`wcond` false: no guard, or one that is not applied) —
    the text is pristine already; performed — it stores `originBytes`, which are pristine -/
def JAt (Target : Loc → Prop) (s : St) : Prop :=
  ∀ f, Target f → (s.patches f = none → s.text f = .pristine) ∧
    (∀ g, s.patches f = some g → g.originBytes = .pristine ∧ (g.applied = false → s.text f = .pristine))

structure Mid (L : Layout) (Target : Loc → Prop) (s : St) (sec : Sec) (k : Nat) (w : Option Nat) : Prop where
  K : k ≤ (bodyOf sec).length
  /-- inside a restoring write, once `copy` is done the text is pristine -/
  W : ∀ f, (bodyOf sec)[k]? = some (.write (.restore f)) → ∀ j, w = some j → Target f →
        ∀ j' < j, (wscript L (.restore f))[j']? = some .copy → s.text f = .pristine
  /-- after the restoring write, until the new patch is registered, the text is pristine -/
  Q : ∀ f, (bodyOf sec)[0]? = some (.write (.restore f)) → k = 1 ∨ k = 2 → Target f → s.text f = .pristine
  /-- `apply` has set `applied` before it writes the jump -/
  A : ∀ f g, sec = .apply f → k = 1 → s.patches f = some g → g.applied = true

/-- `Target` is only ever instantiated with locations that are no origin placeholder (`hplh` in `SInv_J`): `tramp` writes `.reloc`
    there and nothing restores it, so `J`, `Q`, `F` speak of the other locations.  `F`: every finished `unpatch` of the tail
    (sections `T`, `T+1`, …) has left its target pristine -/
structure SInv (L : Layout) (prog : Tid → List Sec) (t : Tid) (Target : Loc → Prop) (T : Nat) (s : St) : Prop where
  J : JAt Target s
  F : ∀ i f, T ≤ i → i < (s.th t).ip → (prog t)[i]? = some (.unpatch f) → Target f → s.text f = .pristine
  mid : ∀ sec k, (prog t)[(s.th t).ip]? = some sec → (s.th t).cur = some k → Mid L Target s sec k (s.th t).w

variable {Target : Loc → Prop} {T : Nat}

theorem JAt_upd {s1 : St} (J : JAt Target s) (f' : Loc) (ht : ∀ f, f ≠ f' → s1.text f = s.text f)
    (hp : ∀ f, f ≠ f' → s1.patches f = s.patches f)
    (h : Target f' → (s1.patches f' = none → s1.text f' = .pristine) ∧
      (∀ g, s1.patches f' = some g → g.originBytes = .pristine ∧ (g.applied = false → s1.text f' = .pristine))) :
    JAt Target s1 := by
  intro f hf
  by_cases e : f = f'
  · subst e; exact h hf
  · rw [ht f e, hp f e]; exact J f hf

theorem SInv_J (hplh : ∀ f g, Target f → L.plh g ≠ f) (I : SInv L prog t Target T s) (hc : Can L prog t s a) :
    JAt Target (a.exec L t s) := by
  have J := I.J
  cases a with
  | retab f' =>
    refine JAt_upd J f' (fun f e => upd_other _ _ _ _ e) (fun f e => upd_other _ _ _ _ e) (fun hf => ?_)
    simp only [Act.exec, Act.eff, setTh_text, setTh_patches, upd_same]
    cases hp : s.patches f' with
    | none => exact ⟨fun _ => (by rw [(J f' hf).1 hp]; rfl), fun g e => (by cases e)⟩
    | some g0 =>
      refine ⟨fun e => (by cases e), fun g e => ?_⟩
      cases e
      exact ⟨((J f' hf).2 g0 hp).1, fun ha => (by rw [((J f' hf).2 g0 hp).2 ha]; rfl)⟩
  | wph sec k wk j ws =>
    have ht : (Act.exec L t (.wph sec k wk j ws) s).text = _ := execW_text L t wk ws s
    have hp : (Act.exec L t (.wph sec k wk j ws) s).patches = s.patches := execW_patches L t wk ws s
    refine JAt_upd J (wloc L wk) (fun f e => by rw [ht]; exact updO_other e) (fun f _ => by rw [hp]) (fun hf => ?_)
    rw [ht, hp]
    cases hv : wval s wk ws with
    | none => exact J _ hf
    | some c =>
      rw [updO_same]
      cases ws with
      | prot pg p => cases hv
      | copy =>
        cases wk with
        | jump f' =>
          -- the guard is applied (`Mid.A`), so nothing is claimed about the text
          obtain ⟨g, hg, rfl⟩ := Option.map_eq_some_iff.1 hv
          obtain ⟨rfl, rfl⟩ := jump_mi_pos hc.1.2.2
          have ha := (I.mid _ _ hc.1.1 hc.1.2.1).A f' g rfl rfl hg
          refine ⟨fun e => (by cases hg.symm.trans e), fun g' e => ?_⟩
          cases hg.symm.trans e
          exact ⟨((J f' hf).2 g hg).1, fun e => (by cases ha.symm.trans e)⟩
        | restore f' =>
          obtain ⟨g, hg, rfl⟩ := Option.map_eq_some_iff.1 hv
          have hc := ((J f' hf).2 g hg).1
          exact ⟨fun _ => hc, fun g' e => ⟨((J f' hf).2 g' e).1, fun _ => hc⟩⟩
        | tramp f' => exact absurd rfl (hplh _ f' hf)
  | tab sec k mi =>
    obtain ⟨h, h4⟩ := hc
    have ht : (Act.exec L t (.tab sec k mi) s).text = s.text := execT_text t mi s
    have hp : (Act.exec L t (.tab sec k mi) s).patches = _ := execT_patches L t mi s
    refine JAt_upd J (mi.loc L) (fun f _ => by rw [ht]) (fun f e => by rw [hp]; exact updO_other e) (fun hf => ?_)
    rw [ht, hp]
    cases hv : tval s mi with
    | none => exact J _ hf
    | some v =>
      rw [updO_same]
      cases mi with
      | unregister f' =>
        cases hv
        obtain ⟨hk, h0⟩ := table_mi_pos h.2.2 (.inl rfl)
        exact ⟨fun _ => (I.mid _ _ h.1 h.2.1).Q f' h0 hk hf, fun g e => (by cases e)⟩
      | register f' r =>
        cases hv
        obtain ⟨hk, h0⟩ := table_mi_pos h.2.2 (.inr ⟨r, rfl⟩)
        have hq := (I.mid _ _ h.1 h.2.1).Q f' h0 hk hf
        exact ⟨fun e => (by cases e), fun g e => (by cases e; exact ⟨hq, fun _ => hq⟩)⟩
      | setApplied f' =>
        obtain ⟨g, hg, rfl⟩ := Option.map_eq_some_iff.1 hv
        exact ⟨fun e => (by cases e), fun g' e => (by cases e; exact ⟨((J f' hf).2 g hg).1, fun e => (by cases e)⟩)⟩
      | write wk => cases hv
  | _ => exact J

/-- only the step from `k = 0` has something to show -/
theorem Mid.succ {s1 : St} {sec k mi w w'} (m : Mid L Target s sec k w) (hb : (bodyOf sec)[k]? = some mi)
    (ht : s1.text = s.text) (hw : w' = none)
    (hQ : k = 0 → ∀ f, (bodyOf sec)[0]? = some (.write (.restore f)) → Target f → s.text f = .pristine)
    (hA : k = 0 → ∀ f g, sec = .apply f → s1.patches f = some g → g.applied = true) :
    Mid L Target s1 sec (k + 1) w' := by
  subst hw
  refine ⟨(List.getElem?_eq_some_iff.1 hb).1, fun f _ j e => (by cases e), fun f h0 hk hf => ?_, fun f g hs hk => hA (by omega) f g hs⟩
  rw [ht]
  rcases Nat.eq_zero_or_pos k with hk0 | hk0
  · exact hQ hk0 f h0 hf
  · exact m.Q f h0 (.inl (by omega)) hf

theorem SInv_mid (LI : LInv prog s) (I : SInv L prog t Target T s) (hc : Can L prog t s a) :
    ∀ sec' k', (prog t)[((a.exec L t s).th t).ip]? = some sec' → ((a.exec L t s).th t).cur = some k' →
      Mid L Target (a.exec L t s) sec' k' ((a.exec L t s).th t).w := by
  intro sec' k'
  rw [exec_th, if_pos rfl]
  cases a with
  | call f x | retab f => exact fun _ e => by cases hc.2.symm.trans e
  | relP sec k => exact fun _ e => by cases e
  | acqP sec =>
    intro _ e; cases e
    have hw : (s.th t).w = none := w_none_of_cur_none LI hc.2.1
    exact ⟨Nat.zero_le _, fun f _ j e => (by cases hw.symm.trans e), fun f _ hk => (by omega), fun f g _ hk => (by cases hk)⟩
  | wskip sec k wk =>
    obtain ⟨h, h4, h5⟩ := hc
    intro e1 e; cases e
    obtain rfl : sec = sec' := Option.some.inj (h.1.symm.trans e1)
    refine (I.mid sec k h.1 h.2.1).succ h.2.2 rfl h4 (fun hk f h0 hf => ?_) (fun hk f g hs _ => by subst hk hs; cases h.2.2)
    -- the restoring write was skipped: no guard, or one that is not applied
    subst hk; cases h.2.2.symm.trans h0
    simp only [wcond, logAcc_patches] at h5
    cases hp : s.patches f with
    | none => exact (I.J f hf).1 hp
    | some g => rw [hp] at h5; exact ((I.J f hf).2 g hp).2 h5
  | relM sec k wk j =>
    obtain ⟨h, h4, h5⟩ := hc
    intro e1 e; cases e
    obtain rfl : sec = sec' := Option.some.inj (h.1.symm.trans e1)
    refine (I.mid sec k h.1 h.2.1).succ h.2.2 rfl rfl (fun hk f h0 hf => ?_) (fun hk f g hs _ => by subst hk hs; cases h.2.2)
    -- the script is exhausted, so `copy` is among the phases done
    subst hk; cases h.2.2.symm.trans h0
    obtain ⟨j', hj'⟩ := wscript_has_copy L (.restore f)
    exact (I.mid sec 0 h.1 h.2.1).W f h0 j h4 hf j'
      (Nat.lt_of_lt_of_le (List.getElem?_eq_some_iff.1 hj').1 (List.getElem?_eq_none_iff.1 h5)) hj'
  | acqM sec k wk =>
    obtain ⟨h, h4, h5, h6⟩ := hc
    intro e1 e
    obtain rfl : k = k' := Option.some.inj (h.2.1.symm.trans e)
    obtain rfl : sec = sec' := Option.some.inj (h.1.symm.trans e1)
    have m := I.mid sec k h.1 h.2.1
    exact ⟨m.K, fun f _ j e _ j' hj' => (by cases e; cases hj'), m.Q, m.A⟩
  | wph sec k wk j ws =>
    obtain ⟨h, h4, h5⟩ := hc
    intro e1 e
    obtain rfl : k = k' := Option.some.inj (h.2.1.symm.trans e)
    obtain rfl : sec = sec' := Option.some.inj (h.1.symm.trans e1)
    have m := I.mid sec k h.1 h.2.1
    have hp : (Act.exec L t (.wph sec k wk j ws) s).patches = s.patches := execW_patches L t wk ws s
    refine ⟨m.K, fun f hb j' e hf => ?_, fun f h0 hk _ => (no_write_after_restore h0 hk h.2.2).elim, by rw [hp]; exact m.A⟩
    cases e; cases h.2.2.symm.trans hb
    intro j' hj' hcopy
    show (execW L t (.restore f) ws s).text f = .pristine
    rw [execW_text]
    cases ws with
    | copy =>
      -- the saved origin bytes are pristine; without a guard nothing is stored, and the text was pristine
      cases hg : s.patches f with
      | none => simp only [wval, hg, Option.map_none]; exact (I.J f hf).1 hg
      | some g => simp only [wval, hg, Option.map_some, wloc, updO_same]; exact ((I.J f hf).2 g hg).1
    | prot pg p =>
      -- phase `j` is not `copy`, so `copy` was done before
      rcases Nat.lt_succ_iff_lt_or_eq.1 hj' with hlt | rfl
      · exact m.W f hb j h4 hf j' hlt hcopy
      · cases h5.symm.trans hcopy
  | tab sec k mi =>
    obtain ⟨h, h4⟩ := hc
    intro e1 e; cases e
    obtain rfl : sec = sec' := Option.some.inj (h.1.symm.trans e1)
    refine (I.mid sec k h.1 h.2.1).succ h.2.2 (execT_text t mi s) (w_none_of_tab LI h h4)
      (fun hk f h0 _ => absurd (Option.some.inj ((hk ▸ h.2.2).symm.trans h0)) (h4 _)) (fun hk f g hs hp => ?_)
    -- `setApplied` has just run
    subst hk hs; cases h.2.2
    rw [Act.exec, setTh_patches, Act.eff, execT_patches L] at hp
    cases hg : s.patches f with
    | none => simp only [tval, hg, Option.map_none] at hp; cases hg.symm.trans hp
    | some g0 => simp only [tval, hg, Option.map_some, MI.loc, updO_same] at hp; cases hp; rfl

def TailOK (prog : Tid → List Sec) (t : Tid) (T : Nat) : Prop :=
  ∀ i sec, T ≤ i → (prog t)[i]? = some sec → (∃ f, sec = .unpatch f) ∨ (∃ f a, sec = .call f a)

theorem SInv_F (htail : TailOK prog t T)
    (I : SInv L prog t Target T s) (hc : Can L prog t s a) :
    ∀ i f, T ≤ i → i < ((a.exec L t s).th t).ip → (prog t)[i]? = some (.unpatch f) → Target f →
      (a.exec L t s).text f = .pristine := by
  intro i f hT hi he hf
  rw [exec_th, if_pos rfl] at hi
  -- a section that ends in this slot: done before, or the current one
  have ended : ∀ {sec}, i < (s.th t).ip + 1 → (prog t)[(s.th t).ip]? = some sec → (sec = .unpatch f → s.text f = .pristine) →
      s.text f = .pristine := fun hi h1 hs => by
    rcases Nat.lt_succ_iff_lt_or_eq.1 hi with hi | rfl
    · exact I.F i f hT hi he hf
    · exact hs (Option.some.inj (h1.symm.trans he))
  cases a with
  | call f' x => exact ended hi hc.1 (fun e => by cases e)
  | retab f' =>
    have hb := ended hi hc.1 (fun e => by cases e)
    show upd s.text f' (retabC (s.text f')) f = .pristine
    unfold upd; split
    · subst f; rw [hb]; rfl
    · exact hb
  | relP sec k =>
    obtain ⟨h1, h2, h3⟩ := hc
    refine ended hi h1 (fun e => ?_)
    -- the `unpatch` section that ends here stood at `k = 1`, after its restoring write
    subst e
    have hk := (I.mid _ k h1 h2).K
    match k with
    | 0 => cases h3
    | 1 => exact (I.mid _ 1 h1 h2).Q f rfl (.inl rfl) hf
    | k + 2 => exact absurd hk (by simp [bodyOf])
  | wph sec k wk j ws =>
    have hb := I.F i f hT hi he hf
    show (execW L t wk ws s).text f = .pristine
    rw [execW_text]
    by_cases e : f = wloc L wk
    · -- in the tail only `unpatch` writes, and it writes the saved origin bytes
      rcases htail _ sec (Nat.le_trans hT (Nat.le_of_lt hi)) hc.1.1 with ⟨f', rfl⟩ | ⟨f', x, rfl⟩
      · cases List.mem_singleton.1 (List.mem_of_getElem? hc.1.2.2)
        subst e
        cases ws with
        | prot pg p => exact hb
        | copy =>
          cases hg : s.patches f with
          | none => simp only [wval, hg, Option.map_none]; exact hb
          | some g => simp only [wval, hg, Option.map_some, wloc, updO_same]; exact ((I.J _ hf).2 g hg).1
      · cases hc.1.2.2
    · rw [updO_other e]; exact hb
  | tab sec k mi => rw [show (Act.exec L t (.tab sec k mi) s).text = s.text from execT_text t mi s]; exact I.F i f hT hi he hf
  | _ => exact I.F i f hT hi he hf

structure Quiet (s : St) : Prop where
  lp : s.lockP = none
  lm : s.lockM = none
  cur : ∀ t, (s.th t).cur = none
  w : ∀ t, (s.th t).w = none
  x : XInv s
  acc : AccOk s.acc

theorem quiet_init (text) : Quiet (init text) := by
  constructor <;> simp [init, XInv, AccOk]

theorem LInv_of_quiet (prog : Tid → List Sec) (q : Quiet s) : LInv prog s := by
  constructor <;> simp [q.cur, q.w, q.lp, q.lm, q.acc]

theorem Agree_of_quiet (L prog t) (q : Quiet s) : Agree L prog t s s :=
  ⟨rfl, fun _ _ => ⟨rfl, rfl⟩, q.x, q.x, LInv_of_quiet prog q, LInv_of_quiet prog q, Or.inl q.lp, Or.inl q.lm⟩

theorem quiet_of_idle (I : LInv prog s) (x : XInv s) (h : ∀ t, (s.th t).cur = none) : Quiet s := by
  have hw : ∀ t, (s.th t).w = none := fun t => w_none_of_cur_none I (h t)
  refine ⟨?_, ?_, h, hw, x, I.accOk⟩
  · cases hl : s.lockP with
    | none => rfl
    | some u => have := I.mpc u hl; rw [h u] at this; cases this
  · cases hl : s.lockM with
    | none => rfl
    | some u => have := I.mmc u hl; rw [hw u] at this; cases this

theorem quiet_run (σ : List Tid) (q : Quiet s) (h : ∀ t, done prog (run L prog σ s) t) : Quiet (run L prog σ s) :=
  quiet_of_idle (LInv_run L prog σ s (LInv_of_quiet prog q)) (XInv_run L prog σ s q.x) (fun t => (h t).2)

theorem SInv_solo (hplh : ∀ f g, Target f → L.plh g ≠ f)
    (htail : TailOK prog t T)
    (q : Quiet s) (j : JAt Target s) (hip : (s.th t).ip ≤ T) (n : Nat) : SInv L prog t Target T (solo L prog t n s) :=
  (solo_ind (P := fun s => LInv prog s ∧ SInv L prog t Target T s) n
    (fun _ _ hc h => ⟨LInv_exec h.1 hc, SInv_J hplh h.2 hc, SInv_F htail h.2 hc, SInv_mid h.1 h.2 hc⟩)
    ⟨LInv_of_quiet prog q, j, fun i f h1 h2 => by omega, fun sec k _ h => by rw [q.cur t] at h; cases h⟩).2

theorem seq_restored_from (hplh : ∀ f g, Target f → L.plh g ≠ f)
    (htail : TailOK prog t T)
    (hcover : ∀ f, Target f → Writes L prog t f → ∃ i, T ≤ i ∧ (prog t)[i]? = some (.unpatch f))
    {s0 : St} (q : Quiet s0) (j : JAt Target s0) (hip : (s0.th t).ip ≤ T)
    (n : Nat) (hd : done prog (solo L prog t n s0) t) (f : Loc) (hT : Target f) (hw : Writes L prog t f) :
    (solo L prog t n s0).text f = .pristine := by
  obtain ⟨i, hi, he⟩ := hcover f hT hw
  exact (SInv_solo hplh htail q j hip n).F i f hi (Nat.lt_of_lt_of_le (List.getElem?_eq_some_iff.1 he).1 hd.1) he hT

theorem seq_restored (hplh : ∀ f g, Target f → L.plh g ≠ f)
    (htail : ∀ i sec, T ≤ i → (prog t)[i]? = some sec → (∃ f, sec = .unpatch f) ∨ (∃ f a, sec = .call f a))
    (hcover : ∀ f, Target f → Writes L prog t f → ∃ i, T ≤ i ∧ (prog t)[i]? = some (.unpatch f))
    (n : Nat) (hd : done prog (solo L prog t n (init (fun _ => .pristine))) t) (f : Loc) (hT : Target f) (hw : Writes L prog t f) :
    (solo L prog t n (init (fun _ => .pristine))).text f = .pristine :=
  seq_restored_from hplh htail hcover (quiet_init _) (fun _ _ => ⟨fun _ => rfl, fun _ e => by cases e⟩) (Nat.zero_le _) n hd f hT hw

theorem mem_insertSorted (x f : Nat) (m : List Nat) : x ∈ insertSorted f m ↔ x = f ∨ x ∈ m := by
  induction m with
  | nil => simp [insertSorted]
  | cons y ys ih =>
    simp only [insertSorted]
    split
    · simp
    · split
      · rename_i h; subst h; simp
      · simp only [List.mem_cons, ih]; exact or_left_comm

theorem compileOps_append (tg : List Loc) (a b : List BOp) (m : List Loc) :
    compileOps tg (a ++ b) m = compileOps tg a m ++ compileOps tg b (mockedAfter a m) := by
  induction a generalizing m with
  | nil => simp [compileOps, mockedAfter]
  | cons op rest ih => cases op <;> simp [compileOps, mockedAfter, ih]

variable {tg : List Loc} {ops : List BOp} {m : List Loc}

theorem mocked_mono (ops : List BOp) {m : List Loc} {x : Loc} (h : x ∈ m) : x ∈ mockedAfter ops m := by
  induction ops generalizing m with
  | nil => exact h
  | cons op rest ih => cases op <;> simp only [mockedAfter] <;> apply ih <;> simp [mem_insertSorted, h]

theorem mem_chkSecs {sec : Sec} (h : sec ∈ chkSecs tg) : ∃ f a, sec = .call f a := by
  simp only [chkSecs, List.mem_flatMap, List.mem_cons, List.not_mem_nil, or_false] at h
  obtain ⟨f, _, h | h⟩ := h
  · exact ⟨f, 3, h⟩
  · exact ⟨f, 1, h⟩

theorem compile_writes {sec : Sec} (hs : sec ∈ compileOps tg ops m)
    {f : Loc} (hf : f ∈ writesOf L sec) (hT : ∀ g, L.plh g ≠ f) : f ∈ mockedAfter ops m := by
  induction ops generalizing m with
  | nil => cases hs
  | cons op rest ih =>
    cases op with
    | mock f' r wo =>
      simp only [compileOps, List.mem_append, List.mem_cons, List.not_mem_nil, or_false] at hs
      rcases hs with (rfl | rfl) | hs
      · have : f = f' := by
          cases wo <;> simp only [writesOf, List.mem_cons, List.not_mem_nil, or_false, if_true, if_false, Bool.false_eq_true] at hf
          · exact hf
          · exact hf.elim id (fun h => (hT f' h.symm).elim)
        subst this
        exact mocked_mono rest (by simp [mem_insertSorted])
      · obtain rfl : f = f' := by simpa [writesOf] using hf
        exact mocked_mono rest (by simp [mem_insertSorted])
      · exact ih hs
    | chk =>
      simp only [compileOps, List.mem_append] at hs
      rcases hs with hs | hs
      · obtain ⟨g, a, rfl⟩ := mem_chkSecs hs
        cases hf
      · exact ih hs
    | reset =>
      simp only [compileOps, List.mem_append, List.mem_map] at hs
      rcases hs with ⟨g, hg, rfl⟩ | hs
      · obtain rfl : f = g := by simpa [writesOf] using hf
        exact mocked_mono rest hg
      · exact ih hs
    | ext f' =>
      simp only [compileOps, List.mem_append] at hs
      rcases hs with hs | hs
      · by_cases hm : f' ∈ m
        · simp only [hm, if_true, List.mem_cons, List.not_mem_nil, or_false] at hs; subst hs
          obtain rfl : f = f' := by simpa [writesOf] using hf
          exact mocked_mono rest hm
        · simp [hm] at hs
      · exact ih hs

theorem builder_tail (hp : prog t = builderProg tg ops) :
    TailOK prog t (compileOps tg ops []).length := by
  intro i sec hi h
  rw [hp, builderProg, List.getElem?_append_right hi] at h
  have hm := List.mem_of_getElem? h
  simp only [List.mem_append, List.mem_map] at hm
  rcases hm with ⟨f, _, rfl⟩ | hm
  · exact Or.inl ⟨f, rfl⟩
  · exact Or.inr (mem_chkSecs hm)

theorem builder_cover (hp : prog t = builderProg tg ops) {f : Loc} (hT : ∀ g, L.plh g ≠ f)
    (hw : Writes L prog t f) :
    ∃ i, (compileOps tg ops []).length ≤ i ∧ (prog t)[i]? = some (.unpatch f) := by
  obtain ⟨sec, hs, hf⟩ := hw
  have hm : f ∈ mockedAfter ops [] := by
    simp only [hp, builderProg, List.mem_append, List.mem_map] at hs
    rcases hs with hs | ⟨g, hg, rfl⟩ | hs
    · exact compile_writes hs hf hT
    · obtain rfl : f = g := by simpa [writesOf] using hf
      exact hg
    · obtain ⟨g, a, rfl⟩ := mem_chkSecs hs
      cases hf
  obtain ⟨j, hj, hje⟩ := List.getElem_of_mem hm
  refine ⟨(compileOps tg ops []).length + j, Nat.le_add_right _ _, ?_⟩
  rw [hp, builderProg, List.getElem?_append_right (Nat.le_add_right _ _), Nat.add_sub_cancel_left,
    List.getElem?_append_left (by simpa using hj)]
  simp [hj, hje]

end Conc
