import GoomVerif.Model.Cursor
/-!
# C05 note (not an obligation): which stub a mocker-level `Return/Returns` extends

`mock.Func(f).Return(..)` / `.Returns(..)` on a mocker that already owns a `When` delegate to `when.Return/Returns`
(mocker.go DefMocker.Return/Returns, `m.when != nil` branch), and those extend the **current** stub: the condition declared last,
or the default only while no condition has been declared (`(*When).Return`).  So the README snippet order
`Return(1); When(1).Return(2); When(In(1,2)).Return(100); Returns(1,2,3)` appends 1,2,3 to the `In(1,2)` condition (and registers
that matcher a second time), it does not start a default sequence.  The property speaks about the stub that "is given" a
sequence; which stub a call addresses is the builder/condition semantics of C04/C12, and every stub still serves what it was
given in order (`calls_kth`).  The model transcribes it and the differential runs (free lane: `mR`/`mS` after `wW`) confirm it
on the real code.
-/
namespace Findings.C05MockerReturnAfterWhen
open Cursor

/-- first history: f(0) = 1,1,1,1 and f(2) = 100,1,2,3,3 -/
example : runOps none [.mRet 1, .mWhen (.eq 1), .wRet 2, .mWhen (.isIn [1, 2]), .wRet 100, .mRets [1, 2, 3],
    .call 0, .call 0, .call 0, .call 0, .call 2, .call 2, .call 2, .call 2, .call 2] =
    [.val 1, .val 1, .val 1, .val 1, .val 100, .val 1, .val 2, .val 3, .val 3] := by decide +kernel

/-- second history: `When(1).Return(5)` then mocker-level `Return(9).AndReturn(10)`: f(1) = 5,9,10,10 and f(0) has no stub -/
example : runOps none [.mWhen (.eq 1), .wRet 5, .mRet 9, .wAnd 10, .call 1, .call 1, .call 1, .call 1, .call 0] =
    [.val 5, .val 9, .val 10, .val 10, .nomatch] := by decide +kernel

end Findings.C05MockerReturnAfterWhen
