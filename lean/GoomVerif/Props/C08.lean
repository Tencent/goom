import GoomVerif.Lemmas.C08L
/-!
# C08 — variable mocks take effect for every type and restore the pre-mock value

All theorems are about `Var.step false` / `Var.run false`: the transcription of var.go, ue_var.go and
builder.go (`Var`, `UnExportedVar`, `Reset`) **with fixes F8** (`fixes/F8.diff`) **and F27**
(`fixes/F27-c08-keep-cancelled-var-mocker.diff`: a lookup returns the cached mocker also when it was cancelled).  They quantify over every type `Ty`
(any kind, named or not, any method set), every value incl. the nil interface and typed nils, every state reachable
under the discipline and every history (`List Op`) — by induction, nothing is enumerated.
The code as published is refuted in `Findings/C08F8.lean`.

`Good a s ops` (Lemmas/C08L): every `Set`/`Apply` of the history goes through a mocker that exists (`i < s.n`) while no
*other* mocker holds a mock of the same variable (`Owner`: in effect one builder and one way of addressing per variable at a
time), values handed to an unexported-variable mocker have the variable's type,
and the program does not itself assign variable `a` while `a` is un-mocked.  Lookups (incl. failing ones), Cancel,
Reset in any order, direct assignments to other variables and to `a` while mocked are unrestricted.
-/
namespace C08
open Var C08L

/-! ## restore: after any history, Cancel / Reset give back the value from before the first mock -/

/-- **Clause "after Cancel … the variable holds exactly the value it had before its first mock, however many times it
    was Set or Applied in between".**  From a state in which `a` is not mocked, run any good history (any number of
    Set/Apply, successful or not, re-lookups, operations on other variables, earlier Cancels/Resets …); then `Cancel`
    on the mocker that holds the mock (any mocker of `a` if none does) does not panic and leaves exactly the
    initial content. -/
theorem restore_first_cancel (s0 : State) (a : Nat) (ops : List Op) (i : Nat)
    (hI : Inv s0) (h0 : ∀ j, ¬ MockedAt s0 a j) (hG : Good a s0 ops)
    (hi : ∀ j, MockedAt (run false s0 ops) a j → j = i) (hia : ((run false s0 ops).mks i).addr = a) :
    (step false (run false s0 ops) (.cancel i)).2 = .ok ∧
    ((step false (run false s0 ops) (.cancel i)).1.mem a).cur = (s0.mem a).cur := by
  obtain ⟨hI1, hB1⟩ := run_inv_base a (s0.mem a).cur ops hI hG ⟨fun j hj => absurd hj (h0 j), fun _ => rfl⟩
  simp only [step, hI1.cancel_eq]
  exact ⟨trivial, cancelled_restores hB1 hi hia⟩

/-- **Clause "after … Reset the variable holds exactly the value it had before its first mock in that builder".**
    `ord` is the order in which Go's map iteration visits the builder's cache — any order, any repetitions, as long
    as it contains the key under which the mocking mocker is cached. -/
theorem restore_first_reset (s0 : State) (a : Nat) (ops : List Op) (b : Nat) (ord : List (Bool × Nat))
    (hI : Inv s0) (h0 : ∀ j, ¬ MockedAt s0 a j) (hG : Good a s0 ops)
    (hb : ∀ j, MockedAt (run false s0 ops) a j →
      ((run false s0 ops).mks j).b = b ∧ (((run false s0 ops).mks j).ue, a) ∈ ord) :
    (step false (run false s0 ops) (.reset b ord)).2 = .ok ∧
    ((step false (run false s0 ops) (.reset b ord)).1.mem a).cur = (s0.mem a).cur := by
  obtain ⟨hI1, hB1⟩ := run_inv_base a (s0.mem a).cur ops hI hG ⟨fun j hj => absurd hj (h0 j), fun _ => rfl⟩
  exact resetGo_restores hI1 hB1 b ord hb

/-! ## restore, per mocker: "in that builder" when several builders mock the same variable -/

/-- **Clause "… the value it had before its first mock *in that builder*", when other builders (or other mockers)
    mock the same variable too.**  No discipline and no invariant: once mocker `i` holds a mock with saved value `x`
    (by `first_set_saves_current`, the content at its first successful Set), any history of lookups, Set/Apply/Cancel
    through ANY mockers — other builders' mockers of the same variable included —, direct assignments and `Pkg` calls
    that does not cancel `i` leaves `i` holding `x`, and `Cancel` through `i`, if it reports success, has written exactly `x`
    back (`Holds` says nothing of `i`'s target, so without `Inv.typed` that `Cancel` may stop before the assignment).
    **Partial**: histories containing `Reset` of other builders are not covered (the full statement needs the cache
    well-formedness `Inv.cacheOK` to hold without the one-mocker discipline; with the discipline it is
    `restore_first_reset`). -/
theorem restore_own_first_partial (s : State) (i a : Nat) (x : Boxed) (ops : List Op)
    (h : Holds s i a x) (hk : ∀ op, op ∈ ops → KeepsMock i op) :
    Holds (run false s ops) i a x ∧
    ((step false (run false s ops) (.cancel i)).2 = .ok →
      ((step false (run false s ops) (.cancel i)).1.mem a).cur = x) := by
  have hH := run_holds i a x ops s h hk
  refine ⟨hH, ?_⟩
  simp only [step]
  obtain ⟨_, h2, h3, h4⟩ := hH
  rcases cancel_cases (run false s ops) i with ⟨o, ho, e⟩ | e
  · rw [e]; exact fun h => absurd h ho
  · rw [e, ← h4]
    refine fun _ => (congrArg Cell.cur (upd_same ..)).trans ?_
    rw [h2]; exact h3

/-- the value a mocker saves at its first successful Set is the variable's content at that moment -/
theorem first_set_saves_current (s : State) (i : Nat) (v : Boxed) (hi : i < s.n) (hm : (s.mks i).mocked = false)
    (hok : (step false s (.set i v)).2 = .ok) :
    Holds (step false s (.set i v)).1 i (s.mks i).addr (s.mem (s.mks i).addr).cur := by
  simp only [step] at hok ⊢
  obtain ⟨T, _, _, ⟨_, O, o, ho, _, e⟩ | ⟨c, _, _, e⟩⟩ := setOp_cases s i v
  · rw [e] at hok; exact absurd hok ho
  · rw [e]; simp only [Holds, upd_same, hm]; exact ⟨hi, trivial, rfl, trivial⟩

/-! ## Cancel / Reset without a mock: no panic, nothing touched, idempotent -/

/-- **Clause "cancelling a variable mock that was never set leaves the variable untouched"** (and does not panic):
    for any state whatsoever, `Cancel` on a mocker that holds no mock — never set, every Set failed, or already
    cancelled — changes no variable. -/
theorem cancel_without_set_noop (s : State) (i : Nat) (h : (s.mks i).mocked = false) :
    (step false s (.cancel i)).2 = .ok ∧ (step false s (.cancel i)).1.mem = s.mem := by
  simp only [step, cancel_unmocked s i h]
  exact ⟨trivial, trivial⟩

/-- `Cancel` never panics (under the invariant every reachable state satisfies). -/
theorem cancel_never_panics (s : State) (hI : Inv s) (i : Nat) : (step false s (.cancel i)).2 = .ok :=
  congrArg Prod.snd (hI.cancel_eq i)

/-- `Reset` never panics, whatever the iteration order. -/
theorem reset_never_panics (s : State) (hI : Inv s) (b : Nat) (ord : List (Bool × Nat)) :
    (step false s (.reset b ord)).2 = .ok :=
  (hI.resetGo_keeps b ord (P := fun _ => True) (fun _ _ _ _ _ _ _ => trivial) trivial).1

/-- **"possibly twice": double Cancel.**  After a Cancel, a second Cancel of the same mocker touches nothing — even if
    the program assigned the variable in between (`mid` is any list of direct assignments). -/
theorem double_cancel (s : State) (hI : Inv s) (i : Nat) (mid : List (Nat × Boxed)) :
    let s1 := (step false s (.cancel i)).1
    let s2 := run false s1 (mid.map (fun w => Op.write w.1 w.2))
    (step false s2 (.cancel i)).2 = .ok ∧ (step false s2 (.cancel i)).1.mem = s2.mem := by
  intro s1 s2
  have h2 : ∀ (l : List (Nat × Boxed)) (t : State), (run false t (l.map (fun w => Op.write w.1 w.2))).mks = t.mks := by
    intro l
    induction l with
    | nil => exact fun _ => rfl
    | cons w rest ih => exact fun t => ih _
  refine cancel_without_set_noop s2 i ?_
  show ((run false (cancel false s i).1 _).mks i).mocked = false
  rw [h2, hI.cancel_eq, cancelled_mks_self]

/-- Reset of a builder none of whose cached mockers holds a mock touches nothing. -/
theorem reset_without_set_noop (b : Nat) (ord : List (Bool × Nat)) : ∀ (s : State),
    (∀ u c i, (u, c) ∈ ord → s.cache b u c = some i → (s.mks i).mocked = false) →
    (step false s (.reset b ord)).2 = .ok ∧ (step false s (.reset b ord)).1.mem = s.mem := by
  intro s h
  refine (resetGo_keeps (b := b) (ord := ord)
    (P := fun t => (∀ j, (t.mks j).mocked = true → (s.mks j).mocked = true) ∧ t.cache = s.cache ∧ t.mem = s.mem)
    (fun t u c i hm ht hc => ?_) ⟨fun _ h => h, rfl, rfl⟩).imp_right fun h => h.2.2
  have hi : (t.mks i).mocked = false := Bool.eq_false_iff.2 fun e =>
    Bool.noConfusion ((h u c i hm (ht.2.1 ▸ hc)).symm.trans (ht.1 i e))
  rw [cancel_unmocked t i hi]
  exact ⟨rfl, fun j hj => ht.1 j ((upd_mocked hj hi).2 ▸ hj), ht.2⟩

/-- **"possibly twice": double Reset.**  A second Reset (same or another iteration order over the same keys) touches
    nothing. -/
theorem double_reset (s : State) (hI : Inv s) (b : Nat) (ord ord' : List (Bool × Nat))
    (hsub : ∀ k, k ∈ ord' → k ∈ ord) :
    let s1 := (step false s (.reset b ord)).1
    (step false s1 (.reset b ord')).2 = .ok ∧ (step false s1 (.reset b ord')).1.mem = s1.mem := by
  intro s1
  obtain ⟨_, hI1, hc⟩ := hI.resetGo_keeps b ord (P := fun t => t.cache = s.cache) (fun _ _ _ _ _ h _ => h) rfl
  refine reset_without_set_noop b ord' s1 fun u c i hm hci => ?_
  exact resetGo_unmocks b ord hI i (.inr ⟨(u, c), hsub _ hm, hc ▸ hci⟩)

/-- the content of a variable of type `t` after a value `x` was stored by reflect -/
def stored (t : Ty) (x : Val) : Boxed := if x.ty = t then some x else conv t (some x)

private theorem rset_ok {t : Ty} {v c : Boxed} (h : rset t (valueOf v) = .ok c) : ∃ x, v = some x ∧ c = stored t x := by
  cases v with
  | none => cases h
  | some x =>
    refine ⟨x, rfl, ?_⟩
    unfold stored
    simp only [valueOf, rset] at h
    split at h
    · next hty => rw [if_pos hty]; exact (Except.ok.inj h).symm
    · next hty =>
      rw [if_neg hty]
      split at h
      · exact (Except.ok.inj h).symm
      · cases h

/-- **Clause "setting a mocked value makes every reader observe that value, for any variable type".**  Whenever `Set`
    reports success the variable itself (what a direct read and an accessor both load) holds the value — the very
    value when the types are identical, the converted value (dynamic type kept by an interface variable, the
    variable's own type otherwise) when they are merely assignable. -/
theorem readers_see_last_set (s : State) (i : Nat) (v : Boxed) (h : (step false s (.set i v)).2 = .ok) :
    ∃ x, v = some x ∧
      ((step false s (.set i v)).1.mem (s.mks i).addr).cur = stored (s.mem (s.mks i).addr).ty x ∧
      ((step false s (.set i v)).1.mem (s.mks i).addr).ty = (s.mem (s.mks i).addr).ty := by
  simp only [step] at h ⊢
  obtain ⟨T, _, _, ⟨_, O, o, ho, _, e⟩ | ⟨c, _, hr, e⟩⟩ := setOp_cases s i v
  · rw [e] at h; exact absurd h ho
  · obtain ⟨x, hv, hc⟩ := rset_ok hr
    rw [e]
    refine ⟨x, hv, ?_, ?_⟩
    · show (upd s.mem _ _ _).cur = _
      rw [upd_same]; exact hc
    · show (upd s.mem _ _ _).ty = _
      rw [upd_same]

/-- `Apply` is `Set` of the callback's single result (the callback runs once; every malformed callback panics before
    anything is touched). -/
theorem apply_is_set (s : State) (i : Nat) (cb : Cb) :
    (∃ v, cbResult cb = .ok v ∧ step false s (.apply i cb) = step false s (.set i v)) ∨
    (∃ p, cbResult cb = .error p ∧ step false s (.apply i cb) = (s, .panic p)) := by
  simp only [step, applyOp_eq]
  cases cbResult cb with
  | error p => exact .inr ⟨p, rfl, rfl⟩
  | ok v => exact .inl ⟨v, rfl, rfl⟩

/-- A `Set` that does not succeed (nil interface, non-assignable type, zero target …) leaves every variable untouched. -/
theorem failed_set_untouched (s : State) (i : Nat) (v : Boxed) (h : (step false s (.set i v)).2 ≠ .ok) :
    (step false s (.set i v)).1.mem = s.mem := by
  simp only [step] at h ⊢
  obtain ⟨T, _, _, ⟨_, O, o, _, _, e⟩ | ⟨c, _, _, e⟩⟩ := setOp_cases s i v
  · rw [e]
  · rw [e] at h; exact absurd rfl h

/-! ## different variables are independent; re-lookup goes through the cache -/

/-- **Different variables are independent (mocker level).**  Set, Apply and Cancel through mocker `i` never change a
    variable other than `i`'s own; lookups (successful or failing) change no variable at all; a direct assignment changes
    only the assigned variable.  The hypothesis is `False` for `Reset`: that case is `reset_touches_only_own`. -/
theorem other_variables_untouched (s : State) (op : Op) (a : Nat)
    (h : match op with
         | .set i _ | .apply i _ | .cancel i => a ≠ (s.mks i).addr
         | .look .. | .lookBad _ | .pkg .. => True
         | .write c _ => a ≠ c
         | .reset .. => False) :
    (step false s op).1.mem a = s.mem a := by
  have hset : ∀ (i : Nat) (v : Boxed), a ≠ (s.mks i).addr → (setOp false s i v).1.mem a = s.mem a := by
    intro i v hne
    obtain ⟨T, _, _, ⟨_, O, o, _, _, e⟩ | ⟨c, _, _, e⟩⟩ := setOp_cases s i v
    · rw [e]
    · rw [e]; exact upd_other hne
  cases op with
  | look b ue c =>
    simp only [step]
    cases hc : s.cache b ue c with
    | none => rw [look_miss hc]; rfl
    | some i => rw [look_hit hc]
  | lookBad p => rfl
  | pkg b p => rfl
  | set i v => exact hset i v h
  | apply i cb =>
    simp only [step, applyOp_eq]
    cases cbResult cb with
    | error p => rfl
    | ok v => exact hset i v h
  | cancel i =>
    simp only [step]
    rcases cancel_cases s i with ⟨o, _, e⟩ | e
    · rw [e]
    · rw [e]; exact upd_other h
  | reset b ord => exact absurd h id
  | write c v => exact upd_other h

/-- **Different variables are independent (builder level).**  `Reset` of builder `b` leaves untouched every variable
    that no mocker of `b` currently mocks — in particular variables mocked through another builder, and variables
    never mocked. -/
theorem reset_touches_only_own (s : State) (hI : Inv s) (b : Nat) (ord : List (Bool × Nat)) (a : Nat)
    (h : ∀ i, MockedAt s a i → (s.mks i).b ≠ b) :
    (step false s (.reset b ord)).1.mem a = s.mem a := by
  refine (hI.resetGo_keeps b ord
    (P := fun t => t.mem a = s.mem a ∧ ∀ i, MockedAt t a i → (t.mks i).b ≠ b) (fun t u c i hI ht hc => ?_) ⟨rfl, h⟩).2.2.1
  -- the cancelled mocker belongs to `b`, so it does not mock `a`
  have hi : ¬ MockedAt t a i := fun hm => ht.2 i hm (hI.cacheOK b u c i hc).2.1
  refine ⟨(cancelled_mem hi).trans ht.1, fun j hj => ?_⟩
  rw [cancelled_mks_other t (cancelled_mockedAt hj).1]
  exact ht.2 j (cancelled_mockedAt hj).2

/-- **Re-lookup through the builder cache.**  `b.Var(&v)` / `b.UnExportedVar(name)` return the one mocker the builder
    ever created under that cache key (builder, way of addressing, variable) — whether it currently holds a mock, was cancelled, or was never set (fix F27) — and
    change nothing but the builder's package override, which they reset.  So a further `Set` keeps the saved origin, and
    no handle the caller kept is ever superseded. -/
theorem relookup_returns_same_mocker (s : State) (hI : Inv s) (i : Nat) (hi : i < s.n) :
    step false s (.look (s.mks i).b (s.mks i).ue (s.mks i).addr) =
      ({ s with ret := i, pkg := upd s.pkg (s.mks i).b 0 }, .ok) :=
  look_hit (hI.allCached i hi)

/-- **The cache key does not depend on `Builder.pkgName`.**  Whatever package overrides are pending — any sequence of
    `Pkg(p)` calls on any builders, in particular `b.Pkg(p).UnExportedVar(name)` — the lookup returns the one
    mocker cached under the key: no second mocker (whose saved origin would be the mock value) is created, no variable and no mocker
    changes. -/
theorem relookup_under_pkg_override (s : State) (hI : Inv s) (i : Nat) (hi : i < s.n)
    (pkgs : List (Nat × Nat)) :
    let s1 := run false s (pkgs.map (fun q => Op.pkg q.1 q.2))
    let r := step false s1 (.look (s.mks i).b (s.mks i).ue (s.mks i).addr)
    r.2 = .ok ∧ r.1.ret = i ∧ r.1.mem = s.mem ∧ r.1.mks = s.mks ∧ r.1.cache = s.cache ∧ r.1.n = s.n ∧
      r.1.pkg (s.mks i).b = 0 := by
  intro s1 r
  have h1 : ∀ (l : List (Nat × Nat)) (t : State),
      ∃ p, run false t (l.map (fun q => Op.pkg q.1 q.2)) = { t with pkg := p } := by
    intro l
    induction l with
    | nil => exact fun t => ⟨_, rfl⟩
    | cons q rest ih => exact fun t => ih _
  obtain ⟨p, e⟩ := h1 pkgs s
  have hr : r = _ := look_hit (s := s1) (show s1.cache _ _ _ = some i by rw [show s1 = _ from e]; exact hI.allCached i hi)
  rw [hr, show s1 = _ from e]
  exact ⟨rfl, rfl, rfl, rfl, rfl, rfl, upd_same ..⟩

/-- **A mocker that was never set holds no mock** (so `cancel_without_set_noop` applies to it): the mocker a first
    lookup creates is un-mocked and not cancelled. -/
theorem first_lookup_unmocked (s : State) (b : Nat) (ue : Bool) (c : Nat) (h : s.cache b ue c = none) :
    let s1 := (step false s (.look b ue c)).1
    s1.ret = s.n ∧ (s1.mks s1.ret).mocked = false ∧ (s1.mks s1.ret).canceled = false ∧ (s1.mks s1.ret).addr = c ∧
      s1.mem = s.mem := by
  intro s1
  have e : s1 = lookFresh s b ue c := congrArg Prod.fst (look_miss h)
  rw [e]
  exact ⟨rfl, congrArg Mocker.mocked (lookFresh_mks_self s b ue c), congrArg Mocker.canceled (lookFresh_mks_self s b ue c),
    congrArg Mocker.addr (lookFresh_mks_self s b ue c), rfl⟩

/-- **Clause "setting a mocked value … for any variable type": a well-typed `Set` succeeds.**  In every reachable state,
    for every mocker the builder handed out: a value whose type is the variable's type, or (pointer-addressed
    variables) merely assignable to it — identical, implementing the interface, or identical underlying type with one
    side unnamed — is accepted; by `readers_see_last_set` the variable then holds it.  For `UnExportedVar` mockers the
    value must have the variable's own type (K-C08-ue-iface: impossible for interface-typed variables). -/
theorem set_succeeds (s : State) (hI : Inv s) (i : Nat) (hi : i < s.n) (x : Val)
    (hx : x.ty = (s.mem (s.mks i).addr).ty ∨
      ((s.mks i).ue = false ∧ assignable x.ty (s.mem (s.mks i).addr).ty = true)) :
    (step false s (.set i (some x))).2 = .ok := by
  simp only [step]
  obtain ⟨T, hT1, hT2, ⟨hn, _⟩ | ⟨c, _, _, e⟩⟩ := setOp_cases s i (some x)
  · refine absurd ⟨?_, rset_some x _ (hx.imp_right And.right)⟩ hn
    rcases Bool.eq_false_or_eq_true (s.mks i).ue with hu | hu
    · -- an unexported-variable mocker was aimed at the value's type, which is the variable's
      have hty := hx.resolve_right fun h => Bool.noConfusion (hu.symm.trans h.1)
      exact (hT2 hu x rfl).trans (congrArg some hty)
    · exact (hT1 (.inl hu)).trans (hI.ptrTyped i hi hu)
  · rw [e]

/-- … and so does `Apply` with a callback that returns such a value. -/
theorem apply_succeeds (s : State) (hI : Inv s) (i : Nat) (hi : i < s.n) (x : Val)
    (hx : x.ty = (s.mem (s.mks i).addr).ty ∨
      ((s.mks i).ue = false ∧ assignable x.ty (s.mem (s.mks i).addr).ty = true)) :
    (step false s (.apply i (.ret (some x)))).2 = .ok :=
  set_succeeds s hI i hi x hx

/-- The invariant holds initially and is kept by every good history: the hypotheses `Inv` above are satisfiable by
    every state a `Good` history reaches from `init` (histories outside the discipline can break `Inv.uniq`, see
    `C08F8.mixed_addressing_restores_wrong_value`). -/
theorem reachable_inv (mem : Nat → Cell) (a : Nat) (ops : List Op) (hG : Good a (init mem) ops) :
    Inv (run false (init mem) ops) :=
  (run_inv_base a (mem a).cur ops (init_inv mem) hG ⟨fun j hj => absurd hj (init_not_mocked mem a j), fun _ => rfl⟩).1

/-! ## the hypotheses are satisfiable by non-trivial states

An `int` variable holding 7 (address 0) and a nil `error` variable (address 1): look up, Set 1, look up again, Set 2;
and for the interface variable: look up, Set a `*T` error.  These histories meet every hypothesis of the restore
theorems, with a mock in place when Cancel is called (Reset is not instantiated here). -/

def exInt : Ty := ⟨1, .int, true, 1, []⟩
def exErr : Ty := ⟨21, .iface, true, 21, [1]⟩
def exPErr : Ty := ⟨24, .ptr, false, 24, [1]⟩
def exMem : Nat → Cell := fun a => if a = 0 then ⟨exInt, some ⟨exInt, 7⟩⟩ else ⟨exErr, none⟩
def exOps : List Op :=
  [.look 0 false 0, .set 0 (some ⟨exInt, 1⟩), .look 0 false 0, .set 0 (some ⟨exInt, 2⟩),
   .look 0 false 1, .set 1 (some ⟨exPErr, 3⟩)]

theorem ex_good (a : Nat) : Good a (init exMem) exOps :=
  .cons (init_inv _) trivial (fun _ => Op.noConfusion) fun hI =>
  .cons hI ⟨hI.owner (by decide +kernel) (by decide +kernel), fun h => absurd h (by decide +kernel)⟩ (fun _ => Op.noConfusion) fun hI =>
  .cons hI trivial (fun _ => Op.noConfusion) fun hI =>
  .cons hI ⟨hI.owner (by decide +kernel) (by decide +kernel), fun h => absurd h (by decide +kernel)⟩ (fun _ => Op.noConfusion) fun hI =>
  .cons hI trivial (fun _ => Op.noConfusion) fun hI =>
  .cons hI ⟨hI.owner (by decide +kernel) (by decide +kernel), fun h => absurd h (by decide +kernel)⟩ (fun _ => Op.noConfusion) fun _ =>
  trivial

/-- the variables are mocked (hold 2 and the error) right before Cancel … -/
example : ((run false (init exMem) exOps).mem 0).cur = some ⟨exInt, 2⟩ ∧
    ((run false (init exMem) exOps).mem 1).cur = some ⟨exPErr, 3⟩ ∧
    MockedAt (run false (init exMem) exOps) 0 0 ∧ MockedAt (run false (init exMem) exOps) 1 1 := by
  decide +kernel

/-- … and `restore_first_cancel` applies to both: 7 and the nil interface come back. -/
example : ((step false (run false (init exMem) exOps) (.cancel 0)).1.mem 0).cur = some ⟨exInt, 7⟩ ∧
    ((step false (run false (init exMem) exOps) (.cancel 1)).1.mem 1).cur = none := by
  have hI := reachable_inv exMem 0 exOps (ex_good 0)
  exact ⟨(restore_first_cancel (init exMem) 0 exOps 0 (init_inv _) (init_not_mocked _ 0) (ex_good 0)
      (hI.forall_mockedAt (by decide +kernel)) (by decide +kernel)).2,
    (restore_first_cancel (init exMem) 1 exOps 1 (init_inv _) (init_not_mocked _ 1) (ex_good 1)
      (hI.forall_mockedAt (by decide +kernel)) (by decide +kernel)).2⟩

/-- `set_succeeds` is not vacuous: in the reachable example state the error variable's mocker (pointer-addressed,
    interface type) accepts a `*T` error (assignable, not identical), and the int variable's mocker an int. -/
example : (step false (run false (init exMem) exOps) (.set 1 (some ⟨exPErr, 2⟩))).2 = .ok ∧
    (step false (run false (init exMem) exOps) (.set 0 (some ⟨exInt, 5⟩))).2 = .ok := by
  have hI := reachable_inv exMem 0 exOps (ex_good 0)
  exact ⟨set_succeeds _ hI 1 (by decide +kernel) ⟨exPErr, 2⟩ (.inr (by decide +kernel)),
    set_succeeds _ hI 0 (by decide +kernel) ⟨exInt, 5⟩ (.inl (by decide +kernel))⟩

/-- `restore_own_first_partial` is not vacuous — two builders mock the same int variable (7): builder 0 sets 1, builder 1
    sets 2 (its mocker saved 1); builder 0's Cancel gives 7 back, and builder 1's own Cancel then gives back the 1 it
    saw before ITS first mock: each builder restores "the value it had before its first mock in that builder". -/
example :
    let ops : List Op := [.look 0 false 0, .set 0 (some ⟨exInt, 1⟩), .look 1 false 0, .set 1 (some ⟨exInt, 2⟩)]
    Holds (run false (init exMem) ops) 0 0 (some ⟨exInt, 7⟩) ∧ Holds (run false (init exMem) ops) 1 0 (some ⟨exInt, 1⟩) ∧
    ((step false (run false (init exMem) ops) (.cancel 0)).1.mem 0).cur = some ⟨exInt, 7⟩ ∧
    ((step false (run false (init exMem) (ops ++ [.cancel 0])) (.cancel 1)).1.mem 0).cur = some ⟨exInt, 1⟩ := by
  decide +kernel

end C08
