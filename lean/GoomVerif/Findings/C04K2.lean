import GoomVerif.Props.C04
/-! Known finding K2 (property C04): an unexported method mocked through `ExportMethod("m").As(func(*T, int) int {…})`.

`UnexportedMethodMocker.As` (mocker.go:411) returns a `DefMocker`, whose `When/Return/Returns` call
`CreateWhen(..., isMethod = false)` with the `As` signature: for goom the stub is a plain function with one parameter
more, the receiver.  A condition written for the method (`When(1)` on `m(int)`) is therefore refused — by `checkParams`
as a first clause, by `ToExpr` later — and the only accepted spelling, `When(receiver, 1)`, *matches* the receiver by
equality, whereas the property says a method's receiver is ignored.  The theorems of Props/C04.lean are about `Sig`s
whose `isMethod` says what the stub is; here goom is given `isMethod = false`, `nIn + 1`.  Not an obligation. -/
namespace C04
open When

/-- the signature goom sees for `func (r *T) m(a int) int` mocked through `As` -/
def k2Sig : Sig := { nIn := 2, variadic := false, isMethod := false, numOut := 1 }

/-- `….As(f).When(1)`: refused as a first clause … -/
theorem k2_first_when_refused : (createWhen k2Sig (some [.val 1]) none).toBool = false := by rfl

/-- … and after a default -/
theorem k2_later_when_refused :
    (match createWhen k2Sig none (some (1, 0)) with
     | .ok w => (w.when [.val 1]).toBool
     | .error _ => true) = false := by rfl

/-- with the receiver spelled out the condition is accepted, and the receiver is matched, not ignored:
    receiver 1000 matches, receiver 1001 does not -/
theorem k2_receiver_is_matched :
    (match build k2Sig [.when (some [.val 1000, .val 1]), .ret 1 5] with
     | .ok w => [(w.invoke (· == ·) (encodeCall k2Sig 0 [1000, 1])).map Prod.fst,
                 (w.invoke (· == ·) (encodeCall k2Sig 0 [1001, 1])).map Prod.fst]
     | .error e => [.error e]) = [.ok (.ret 5), .error .nosuitable] := by decide +kernel

end C04
