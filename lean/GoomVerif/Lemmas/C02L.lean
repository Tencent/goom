import GoomVerif.Model.Patch
/-! A function that leaves part of the state alone says so by one equation `f s = { s with … }`; an untouched field is read off
    with `congrArg`. -/
namespace C02L
open Patch

theorem jump_length (to : BitVec 64) : (jumpTo to).length = 13 := rfl

theorem jump_head (to : BitVec 64) : (jumpTo to).head? = some 0x90#8 := rfl

theorem overwrite_take (P : Bytes) (n : Nat) (h : n ≤ P.length) : overwrite P (P.take n) = P := by
  unfold overwrite
  rw [List.length_take, Nat.min_eq_left h]
  exact List.take_append_drop n P

theorem overwrite_overwrite (P J B : Bytes) (h : J.length = B.length) : overwrite (overwrite P J) B = overwrite P B := by
  unfold overwrite
  rw [← h, List.drop_left]

theorem overwrite_length (P J : Bytes) (h : J.length ≤ P.length) : (overwrite P J).length = P.length := by
  unfold overwrite
  rw [List.length_append, List.length_drop]
  exact Nat.add_sub_cancel' h

theorem overwrite_drop (P J : Bytes) {n : Nat} (h : J.length = n) : (overwrite P J).drop n = P.drop n := by
  unfold overwrite
  rw [List.drop_left' h, h]

theorem overwrite_takeJ (P J : Bytes) {n : Nat} (h : J.length = n) : (overwrite P J).take n = J :=
  List.take_left' h

theorem upd_same {β} {m : Nat → β} {a : Nat} {b : β} : upd m a b a = b := if_pos rfl
theorem upd_other {β} (m : Nat → β) (a x : Nat) (b : β) (h : x ≠ a) : upd m a b x = m x := if_neg h

theorem upd_upd {β} (m : Nat → β) (a : Nat) (b c : β) : upd (upd m a b) a c = upd m a c := by
  funext x
  unfold upd
  split <;> rfl

theorem upd_congr {β γ} (v : β → γ) {m : Nat → β} {a : Nat} {b : β} (h : v b = v (m a)) (x : Nat) :
    v (upd m a b x) = v (m x) := by
  unfold upd
  split
  · next e => rw [h, e]
  · rfl

/-- the linker aligns function entries to 16 bytes, so every function's extent holds the 13-byte jump -/
def EnvOk (env : Env) : Prop := ∀ f, 16 ≤ (env.pristine f).length

/-- A mocker's guard (`mg`) need not be the registered one (`reg`, `txt`): another builder may have re-patched the target since.
    `saved` holds for every guard, registered or not, because `replaceFunc` reads the origin bytes after its `unpatchValue`. -/
structure Inv (env : Env) (s : St) : Prop where
  saved : ∀ g, g < s.nGuards → (s.guards g).originBytes = (env.pristine (s.guards g).origin).take 13 ∧ (s.guards g).jumpBytes.length = 13
  txt : ∀ f, s.text f = env.pristine f ∨
    ∃ p g, s.patches f = some p ∧ p.guard = some g ∧ (s.guards g).applied = true ∧ s.text f = overwrite (env.pristine f) (s.guards g).jumpBytes
  reg : ∀ f p g, s.patches f = some p → p.guard = some g → g < s.nGuards ∧ (s.guards g).origin = f
  mg : ∀ id g, (s.mockers id).guard = some g → g < s.nGuards ∧ (s.guards g).origin = (s.mockers id).target
  ck : ∀ b key id, s.cache b key = some id → (s.mockers id).target = key % 1000 ∧ key ∈ s.keys b ∧ id < s.nMockers

theorem inv_init (env : Env) : Inv env (init env) :=
  ⟨fun _ h => absurd h (Nat.not_lt_zero _), fun _ => Or.inl rfl, fun _ _ _ h => (nomatch (show none = some _ from h)),
    fun _ _ h => (nomatch (show none = some _ from h)), fun _ _ _ h => (nomatch (show none = some _ from h))⟩

theorem Inv.congr {env : Env} {s s' : St} (hi : Inv env s) (ht : s'.text = s.text) (hp : s'.patches = s.patches)
    (hg : s'.guards = s.guards) (hn : s'.nGuards = s.nGuards) (hc : s'.cache = s.cache) (hk : s'.keys = s.keys)
    (hnm : s'.nMockers = s.nMockers)
    (hm : ∀ j, (s'.mockers j).target = (s.mockers j).target ∧ (s'.mockers j).guard = (s.mockers j).guard) : Inv env s' := by
  refine ⟨?_, ?_, ?_, ?_, ?_⟩
  · rw [hg, hn]; exact hi.saved
  · rw [ht, hp, hg]; exact hi.txt
  · rw [hp, hg, hn]; exact hi.reg
  · intro j g h
    rw [(hm j).2] at h
    rw [hg, hn, (hm j).1]
    exact hi.mg j g h
  · intro b key j h
    rw [hc] at h
    rw [(hm j).1, hk, hnm]
    exact hi.ck b key j h

theorem Inv.restore {env : Env} {s s' : St} (hi : Inv env s) (hs : s' = { s with text := s'.text })
    (ht : ∀ x, s'.text x = s.text x ∨ s'.text x = env.pristine x) : Inv env s' := by
  refine ⟨?_, ?_, ?_, ?_, ?_⟩
  · rw [hs]; exact hi.saved
  · intro f
    rcases ht f with h | h
    · rw [h, hs]; exact hi.txt f
    · exact Or.inl h
  · rw [hs]; exact hi.reg
  · rw [hs]; exact hi.mg
  · rw [hs]; exact hi.ck

theorem guardUnpatch_shape (s : St) (g : Nat) : guardUnpatch s g = { s with text := (guardUnpatch s g).text } := by
  unfold guardUnpatch
  split <;> rfl

/-- `Guard.Unpatch` (guard.go) of an applied guard makes its target pristine whatever jump the target carries at that moment -/
theorem guardUnpatch_text {env : Env} (he : EnvOk env) {s : St} (hi : Inv env s) {g : Nat} (hg : g < s.nGuards) :
    (guardUnpatch s g).text =
      if (s.guards g).applied = true then upd s.text (s.guards g).origin (env.pristine (s.guards g).origin) else s.text := by
  unfold guardUnpatch
  split
  · have hP : 13 ≤ (env.pristine (s.guards g).origin).length := Nat.le_trans (by decide) (he _)
    show upd _ _ (overwrite _ _) = _
    rw [(hi.saved g hg).1]
    -- the target is pristine, or pristine under a 13-byte jump: the saved head overwrites exactly that jump
    rcases hi.txt (s.guards g).origin with h | ⟨p, g', h1, h2, _, h4⟩
    · rw [h, overwrite_take _ 13 hP]
    · rw [h4, overwrite_overwrite, overwrite_take _ 13 hP]
      rw [(hi.saved g' (hi.reg _ p g' h1 h2).1).2, List.length_take, Nat.min_eq_left hP]
  · rfl

/-- `s'` is `s` after `Cancel` of exactly the mockers in `C`, in any order -/
structure Cancels (env : Env) (s s' : St) (C : Nat → Prop) : Prop where
  shape : s' = { s with text := s'.text, mockers := s'.mockers }
  mock : ∀ j, (s'.mockers j).target = (s.mockers j).target ∧ (s'.mockers j).guard = (s.mockers j).guard ∧
    ((s.mockers j).canceled = true → (s'.mockers j).canceled = true)
  text : ∀ x, s'.text x = s.text x ∨ (s'.text x = env.pristine x ∧
    ∃ id g, C id ∧ (s.mockers id).target = x ∧ (s.mockers id).guard = some g ∧ (s.guards g).applied = true)
  rest : ∀ j, s'.mockers j = s.mockers j ∨ C j
  done : ∀ id, C id → (s'.mockers id).canceled = true ∧ ∀ g, (s.mockers id).guard = some g → (s.guards g).applied = true →
    s'.text (s.mockers id).target = env.pristine (s.mockers id).target

theorem Cancels.refl (env : Env) (s : St) : Cancels env s s (fun _ => False) :=
  ⟨rfl, fun _ => ⟨rfl, rfl, id⟩, fun _ => Or.inl rfl, fun _ => Or.inl rfl, fun _ h => h.elim⟩

theorem Cancels.weak {env : Env} {s s' : St} {C : Nat → Prop} (h : Cancels env s s' C) (x : Nat) :
    s'.text x = s.text x ∨ s'.text x = env.pristine x :=
  (h.text x).imp_right And.left

theorem Cancels.congr_set {env : Env} {s s' : St} {C C' : Nat → Prop} (h : Cancels env s s' C) (hC : ∀ id, C id ↔ C' id) :
    Cancels env s s' C' :=
  ⟨h.shape, h.mock, fun x => (h.text x).imp_right fun ⟨e, id, g, c, r⟩ => ⟨e, id, g, (hC id).1 c, r⟩,
    fun j => (h.rest j).imp_right (hC j).1, fun id c => h.done id ((hC id).2 c)⟩

theorem Cancels.inv {env : Env} {s s' : St} {C : Nat → Prop} (hi : Inv env s) (h : Cancels env s s' C) : Inv env s' :=
  (hi.restore (s' := { s with text := s'.text }) rfl h.weak).congr rfl (congrArg St.patches h.shape :) (congrArg St.guards h.shape :)
    (congrArg St.nGuards h.shape :) (congrArg St.cache h.shape :) (congrArg St.keys h.shape :) (congrArg St.nMockers h.shape :)
    (fun j => ⟨(h.mock j).1, (h.mock j).2.1⟩)

/-- cancelling `C1`, then `C2`: what the first round restored stays restored, because the second only restores -/
theorem Cancels.trans {env : Env} {s s1 s2 : St} {C1 C2 : Nat → Prop} (h1 : Cancels env s s1 C1) (h2 : Cancels env s1 s2 C2) :
    Cancels env s s2 (fun id => C1 id ∨ C2 id) := by
  have hg : s1.guards = s.guards := (congrArg St.guards h1.shape :)
  refine ⟨?_, ?_, ?_, ?_, ?_⟩
  · exact h2.shape.trans (congrArg (fun t : St => { t with text := s2.text, mockers := s2.mockers }) h1.shape)
  · intro j
    exact ⟨(h2.mock j).1.trans (h1.mock j).1, (h2.mock j).2.1.trans (h1.mock j).2.1, fun h => (h2.mock j).2.2 ((h1.mock j).2.2 h)⟩
  · intro x
    rcases h2.text x with e2 | ⟨e2, id, g, c, t, gd, ap⟩
    · rcases h1.text x with e1 | ⟨e1, id, g, c, r⟩
      · exact Or.inl (e2.trans e1)
      · exact Or.inr ⟨e2.trans e1, id, g, Or.inl c, r⟩
    · exact Or.inr ⟨e2, id, g, Or.inr c, (h1.mock id).1.symm.trans t, (h1.mock id).2.1.symm.trans gd, by rw [← hg]; exact ap⟩
  · intro j
    rcases h2.rest j with e2 | c
    · exact (h1.rest j).imp (fun e1 => e2.trans e1) Or.inl
    · exact Or.inr (Or.inr c)
  · intro id c
    rcases c with c | c
    · refine ⟨(h2.mock id).2.2 (h1.done id c).1, fun g gd ap => ?_⟩
      rcases h2.weak (s.mockers id).target with e | e
      · exact e.trans ((h1.done id c).2 g gd ap)
      · exact e
    · refine ⟨(h2.done id c).1, fun g gd ap => ?_⟩
      have := (h2.done id c).2 g ((h1.mock id).2.1.trans gd) (by rw [hg]; exact ap)
      rw [(h1.mock id).1] at this
      exact this

theorem cancelGuard_shape (s : St) (o : Option Nat) : cancelGuard s o = { s with text := (cancelGuard s o).text } := by
  cases o with
  | none => rfl
  | some g => exact guardUnpatch_shape s g

theorem cancelMocker_cancels {env : Env} (he : EnvOk env) {s : St} (hi : Inv env s) (id : Nat) :
    Cancels env s (cancelMocker s id) (· = id) := by
  have hs := cancelGuard_shape s (s.mockers id).guard
  have hG : (∀ x, (cancelGuard s (s.mockers id).guard).text x = s.text x ∨ ((cancelGuard s (s.mockers id).guard).text x = env.pristine x ∧
        (s.mockers id).target = x ∧ ∃ g, (s.mockers id).guard = some g ∧ (s.guards g).applied = true)) ∧
      (∀ g, (s.mockers id).guard = some g → (s.guards g).applied = true →
        (cancelGuard s (s.mockers id).guard).text (s.mockers id).target = env.pristine (s.mockers id).target) := by
    cases hgd : (s.mockers id).guard with
    | none => exact ⟨fun _ => Or.inl rfl, fun g h => nomatch h⟩
    | some g =>
      obtain ⟨hlt, ho⟩ := hi.mg id g hgd
      have ht := guardUnpatch_text he hi hlt
      rw [ho] at ht
      refine ⟨?_, ?_⟩
      · intro x
        show (guardUnpatch s g).text x = _ ∨ (guardUnpatch s g).text x = _ ∧ _
        rw [ht]
        by_cases ha : (s.guards g).applied = true
        · rw [if_pos ha]
          by_cases hx : x = (s.mockers id).target
          · exact Or.inr ⟨by rw [hx, upd_same], hx.symm, g, rfl, ha⟩
          · exact Or.inl (upd_other _ _ _ _ hx)
        · rw [if_neg ha]; exact Or.inl rfl
      · intro g' e ha
        cases e
        show (guardUnpatch s g).text _ = _
        rw [ht, if_pos ha, upd_same]
  obtain ⟨ht, hd⟩ := hG
  have hm : (cancelMocker s id).mockers
      = upd s.mockers id { (s.mockers id) with hasWhen := false, origin := none, canceled := true } := by
    show upd (cancelGuard s (s.mockers id).guard).mockers id _ = _
    rw [show (cancelGuard s (s.mockers id).guard).mockers = s.mockers from (congrArg St.mockers hs :)]
  refine ⟨?_, ?_, ?_, ?_, ?_⟩
  · rw [show cancelMocker s id = markCanceled { s with text := (cancelGuard s (s.mockers id).guard).text } id from
      congrArg (fun t : St => markCanceled t id) hs]
    rfl
  · intro j
    rw [hm]
    refine ⟨upd_congr Mocker.target (by rfl) j, upd_congr Mocker.guard (by rfl) j, fun h => ?_⟩
    unfold upd
    split
    · rfl
    · exact h
  · intro x
    exact (ht x).imp_right fun ⟨e, t, g, r⟩ => ⟨e, id, g, rfl, t, r⟩
  · intro j
    by_cases hj : j = id
    · exact Or.inr hj
    · exact Or.inl (by rw [hm]; exact upd_other _ _ _ _ hj)
  · intro j e
    cases e
    exact ⟨by rw [hm, upd_same], hd⟩

theorem cancelKeys_cancels {env : Env} (he : EnvOk env) (b : Nat) (ks : List Nat) : ∀ {s : St}, Inv env s →
    Cancels env s (cancelKeys s b ks) (fun id => ∃ k, k ∈ ks ∧ s.cache b k = some id) := by
  induction ks with
  | nil => intro s _; exact (Cancels.refl env s).congr_set fun id => ⟨False.elim, fun ⟨_, h, _⟩ => nomatch h⟩
  | cons k ks ih =>
    intro s hi
    have head : ∃ s1, cancelKeys s b (k :: ks) = cancelKeys s1 b ks ∧ Cancels env s s1 (fun id => s.cache b k = some id) := by
      cases hc : s.cache b k with
      | none =>
        exact ⟨s, by simp only [cancelKeys, hc], (Cancels.refl env s).congr_set fun id => ⟨False.elim, fun h => nomatch h⟩⟩
      | some id =>
        exact ⟨cancelMocker s id, by simp only [cancelKeys, hc],
          (cancelMocker_cancels he hi id).congr_set fun j => ⟨fun e => by rw [e], fun e => (Option.some.inj e).symm⟩⟩
    obtain ⟨s1, e, h1⟩ := head
    rw [e]
    refine (h1.trans (ih (h1.inv hi))).congr_set fun id => ?_
    rw [show s1.cache = s.cache from (congrArg St.cache h1.shape :)]
    constructor
    · rintro (h | ⟨k', hk', h⟩)
      · exact ⟨k, List.mem_cons_self, h⟩
      · exact ⟨k', List.mem_cons_of_mem _ hk', h⟩
    · rintro ⟨k', hk', h⟩
      rcases List.mem_cons.mp hk' with rfl | hk'
      · exact Or.inl h
      · exact Or.inr ⟨k', hk', h⟩

theorem cancelKeys_spec {env : Env} (he : EnvOk env) (b : Nat) (ks : List Nat) : ∀ {s : St}, Inv env s →
    Inv env (cancelKeys s b ks) ∧
    (∀ x, (cancelKeys s b ks).text x = s.text x ∨ (cancelKeys s b ks).text x = env.pristine x) ∧
    (cancelKeys s b ks).cache = s.cache ∧ (cancelKeys s b ks).keys = s.keys ∧ (cancelKeys s b ks).guards = s.guards ∧
    (∀ j, ((cancelKeys s b ks).mockers j).target = (s.mockers j).target ∧ ((cancelKeys s b ks).mockers j).guard = (s.mockers j).guard ∧
          ((s.mockers j).canceled = true → ((cancelKeys s b ks).mockers j).canceled = true)) ∧
    (∀ x, (∀ k, k ∈ ks → k % 1000 ≠ x) → (cancelKeys s b ks).text x = s.text x) ∧
    (∀ k, k ∈ ks → ∀ id g, s.cache b k = some id → (s.mockers id).guard = some g → (s.guards g).applied = true →
        (cancelKeys s b ks).text (k % 1000) = env.pristine (k % 1000)) ∧
    (∀ k, k ∈ ks → ∀ id, s.cache b k = some id → ((cancelKeys s b ks).mockers id).canceled = true) := by
  intro s hi
  have h := cancelKeys_cancels he b ks hi
  refine ⟨h.inv hi, h.weak, (congrArg St.cache h.shape :), (congrArg St.keys h.shape :), (congrArg St.guards h.shape :), h.mock,
    ?_, ?_, ?_⟩
  · intro x hx
    rcases h.text x with e | ⟨_, id, g, ⟨k, hk, c⟩, t, _⟩
    · exact e
    · exact absurd ((hi.ck b k id c).1.symm.trans t) (hx k hk)
  · intro k hk id g c gd ap
    have := (h.done id ⟨k, hk, c⟩).2 g gd ap
    rw [(hi.ck b k id c).1] at this
    exact this
  · intro k hk id c
    exact (h.done id ⟨k, hk, c⟩).1

/-- the key lists cover the caches (`Inv.ck`) -/
theorem resetB_cancels {env : Env} (he : EnvOk env) {s : St} (hi : Inv env s) (b : Nat) :
    Cancels env s (resetB s b) (fun id => ∃ o key, (o = b ∨ s.scache b = some o) ∧ s.cache o key = some id) := by
  have ha := cancelKeys_cancels he b (s.keys b) hi
  unfold resetB
  cases hs : s.scache b with
  | none =>
    refine ha.congr_set fun id => ⟨fun ⟨k, _, c⟩ => ⟨b, k, Or.inl rfl, c⟩, ?_⟩
    rintro ⟨o, k, rfl | h, c⟩
    · exact ⟨k, (hi.ck _ k id c).2.1, c⟩
    · exact nomatch h
  | some o' =>
    have hb := cancelKeys_cancels he o' ((cancelKeys s b (s.keys b)).keys o') (ha.inv hi)
    show Cancels env s (cancelKeys (cancelKeys s b (s.keys b)) o' ((cancelKeys s b (s.keys b)).keys o')) _
    rw [show (cancelKeys s b (s.keys b)).keys = s.keys from (congrArg St.keys ha.shape :)] at hb ⊢
    rw [show (cancelKeys s b (s.keys b)).cache = s.cache from (congrArg St.cache ha.shape :)] at hb
    refine (ha.trans hb).congr_set fun id => ⟨?_, ?_⟩
    · rintro (⟨k, _, c⟩ | ⟨k, _, c⟩)
      · exact ⟨b, k, Or.inl rfl, c⟩
      · exact ⟨o', k, Or.inr rfl, c⟩
    · rintro ⟨o, k, rfl | h, c⟩
      · exact Or.inl ⟨k, (hi.ck _ k id c).2.1, c⟩
      · cases h
        exact Or.inr ⟨k, (hi.ck _ k id c).2.1, c⟩

theorem Inv.set_patch {env : Env} {s : St} (hi : Inv env s) (f : Nat) (ht : s.text f = env.pristine f) (e : Option PatchE)
    (he : ∀ p, e = some p → p.guard = none) : Inv env { s with patches := upd s.patches f e } := by
  refine ⟨hi.saved, ?_, ?_, hi.mg, hi.ck⟩
  · intro x
    by_cases hx : x = f
    · exact Or.inl (hx ▸ ht)
    · exact (hi.txt x).imp_right fun ⟨p, g, h1, r⟩ => ⟨p, g, (upd_other _ _ _ _ hx).trans h1, r⟩
  · intro x p g h1 h2
    by_cases hx : x = f
    · rw [hx] at h1
      rw [he p (upd_same.symm.trans h1)] at h2
      cases h2
    · exact hi.reg x p g ((upd_other _ _ _ _ hx).symm.trans h1) h2

theorem patchUnpatch_shape (s : St) (p : PatchE) : patchUnpatch s p = { s with text := (patchUnpatch s p).text } := by
  unfold patchUnpatch
  cases p.guard with
  | none => rfl
  | some g => exact guardUnpatch_shape s g

theorem unpatchValue_shape (s : St) (f : Nat) :
    unpatchValue s f = { s with text := (unpatchValue s f).text, patches := (unpatchValue s f).patches } := by
  unfold unpatchValue
  cases s.patches f with
  | none => rfl
  | some p => exact congrArg (fun t : St => { t with patches := upd (patchUnpatch s p).patches f none }) (patchUnpatch_shape s p)

theorem unpatchValue_spec {env : Env} (he : EnvOk env) {s : St} (hi : Inv env s) (f : Nat) :
    Inv env (unpatchValue s f) ∧ (unpatchValue s f).text f = env.pristine f ∧
    (∀ x, x ≠ f → (unpatchValue s f).text x = s.text x) ∧ (∀ x, x ≠ f → (unpatchValue s f).patches x = s.patches x) := by
  unfold unpatchValue
  cases hp : s.patches f with
  | none =>
    exact ⟨hi, (hi.txt f).resolve_right fun ⟨p, _, h, _⟩ => (nomatch hp.symm.trans h), fun _ _ => rfl, fun _ _ => rfl⟩
  | some p =>
    have key : (patchUnpatch s p).text f = env.pristine f ∧ ∀ x, x ≠ f → (patchUnpatch s p).text x = s.text x := by
      unfold patchUnpatch
      cases hg : p.guard with
      | none =>
        exact ⟨(hi.txt f).resolve_right fun ⟨p', _, h1, h2, _⟩ => (by cases hp.symm.trans h1; exact nomatch hg.symm.trans h2),
          fun _ _ => rfl⟩
      | some g =>
        obtain ⟨hlt, ho⟩ := hi.reg f p g hp hg
        have ht := guardUnpatch_text he hi hlt
        rw [ho] at ht
        refine ⟨?_, ?_⟩
        · show (guardUnpatch s g).text f = _
          rw [ht]
          split
          · exact upd_same
          · next hna =>
            refine (hi.txt f).resolve_right fun ⟨p', g', h1, h2, h3, _⟩ => hna ?_
            cases hp.symm.trans h1
            cases hg.symm.trans h2
            exact h3
        · intro x hx
          show (guardUnpatch s g).text x = _
          rw [ht]
          split
          · exact upd_other _ _ _ _ hx
          · rfl
    obtain ⟨ht, hf⟩ := key
    have i1 : Inv env (patchUnpatch s p) := hi.restore (patchUnpatch_shape s p) fun x => by
      by_cases hx : x = f
      · exact Or.inr (hx ▸ ht)
      · exact Or.inl (hf x hx)
    have hpp : (patchUnpatch s p).patches = s.patches := (congrArg St.patches (patchUnpatch_shape s p) :)
    exact ⟨i1.set_patch f ht none (fun _ h => nomatch h), ht, hf, fun x hx => (upd_other _ _ _ _ hx).trans (congrFun hpp x)⟩

structure Fresh (env : Env) (s r : St) (f : Nat) (to : BitVec 64) (g : Nat) : Prop where
  gid : g = s.nGuards
  n : r.nGuards = s.nGuards + 1
  origin : (r.guards g).origin = f
  jump : (r.guards g).jumpBytes = jumpTo to
  saved : (r.guards g).originBytes = (env.pristine f).take 13
  unapplied : (r.guards g).applied = false
  registered : ∃ p, r.patches f = some p ∧ p.guard = some g

theorem register_register (s : St) (f : Nat) (p q : PatchE) : register (register s f p) f q = register s f q :=
  congrArg (fun m => { s with patches := m }) (upd_upd s.patches f (some p) (some q))

theorem replaceFunc_exits (env : Env) (s : St) (f : Nat) (to : BitVec 64) (tramp : Option Nat) :
    (∃ p e, p.guard = none ∧ replaceFunc env s f to tramp = (register (unpatchValue s f) f p, .error e) ∧
      (env.funcSize f ≤ 13 ∧ e = .tooSmall ∨
       13 < env.funcSize f ∧ (Gen.Amd64.checkAlreadyPatch (((unpatchValue s f).text f).take 13) = true ∨ tramp ≠ none))) ∨
    (13 < env.funcSize f ∧ Gen.Amd64.checkAlreadyPatch (((unpatchValue s f).text f).take 13) = false ∧
      ∃ ph, replaceFunc env s f to tramp =
        mkGuard { register (unpatchValue s f) f ⟨((unpatchValue s f).text f).take 13, jumpTo to, none⟩ with ph := ph } f
          ⟨((unpatchValue s f).text f).take 13, jumpTo to, none⟩) := by
  unfold replaceFunc
  simp only [jump_length, register_register, show ∀ (t : St) p, (register t f p).text = t.text from fun _ _ => rfl]
  by_cases h1 : 13 ≥ env.funcSize f
  · rw [if_pos h1]
    exact Or.inl ⟨_, _, rfl, rfl, Or.inl ⟨h1, rfl⟩⟩
  · rw [if_neg h1]
    by_cases h2 : Gen.Amd64.checkAlreadyPatch (((unpatchValue s f).text f).take 13) = true
    · rw [if_pos h2]
      exact Or.inl ⟨_, _, rfl, rfl, Or.inr ⟨Nat.lt_of_not_le h1, Or.inl h2⟩⟩
    · rw [if_neg h2]
      cases tramp with
      | none => exact Or.inr ⟨Nat.lt_of_not_le h1, Bool.eq_false_iff.mpr h2, _, rfl⟩
      | some o =>
        dsimp only
        split
        · exact Or.inl ⟨_, _, rfl, rfl, Or.inr ⟨Nat.lt_of_not_le h1, Or.inr (Option.some_ne_none o)⟩⟩
        · exact Or.inr ⟨Nat.lt_of_not_le h1, Bool.eq_false_iff.mpr h2, _, rfl⟩

structure Le (s s' : St) : Prop where
  nMockers : s.nMockers ≤ s'.nMockers
  nStubs : s.nStubs ≤ s'.nStubs
  nAdapt : s.nAdapt ≤ s'.nAdapt
  adapt : ∀ n, n < s.nAdapt → s'.adapt n = s.adapt n

theorem Le.trans {a b c : St} (h1 : Le a b) (h2 : Le b c) : Le a c :=
  ⟨Nat.le_trans h1.1 h2.1, Nat.le_trans h1.2 h2.2, Nat.le_trans h1.3 h2.3,
    fun n hn => (h2.adapt n (Nat.lt_of_lt_of_le hn h1.nAdapt)).trans (h1.adapt n hn)⟩

def counters (s : St) := (s.nMockers, s.nStubs, s.nAdapt, s.adapt)

theorem Le.of_eq {s s' : St} (h : counters s' = counters s) : Le s s' := by
  simp only [counters, Prod.mk.injEq] at h
  obtain ⟨h1, h2, h3, h4⟩ := h
  exact ⟨Nat.le_of_eq h1.symm, Nat.le_of_eq h2.symm, Nat.le_of_eq h3.symm, fun _ _ => congrFun h4 _⟩

def Denotes (env : Env) (s : St) (a : BitVec 64) (imp : Imp) : Prop :=
  a = impAddr env imp ∨ ∃ n, n < s.nAdapt ∧ a = env.adaptAddr n ∧ s.adapt n = some imp

theorem Denotes.mono {env : Env} {s s' : St} (h : Le s s') {a : BitVec 64} {imp : Imp} (hd : Denotes env s a imp) :
    Denotes env s' a imp :=
  hd.imp_right fun ⟨n, hn, e1, e2⟩ => ⟨n, Nat.lt_of_lt_of_le hn h.nAdapt, e1, (h.adapt n hn).trans e2⟩

theorem applyImp_error {env : Env} {s : St} {id : Nat} {imp : Imp} {s1 : St} {e : Err}
    (h : replaceFunc env s (s.mockers id).target (dest env s id imp) (s.mockers id).origin = (s1, .error e)) :
    applyImp env s id imp = (s1, some e) := by
  simp only [applyImp, h]

theorem applyImp_ok {env : Env} {s : St} {id : Nat} {imp : Imp} {s1 : St} {g : Nat}
    (h : replaceFunc env s (s.mockers id).target (dest env s id imp) (s.mockers id).origin = (s1, .ok g)) :
    applyImp env s id imp =
      ({ guardApply s1 g with
          mockers := upd s1.mockers id { (s1.mockers id) with guard := some g, imp := some imp, canceled := false },
          nAdapt := if env.generic (s.mockers id).target = true then s.nAdapt + 1 else s.nAdapt,
          adapt := if env.generic (s.mockers id).target = true then upd s.adapt s.nAdapt (some imp) else s.adapt }, none) := by
  simp only [applyImp, h]
  rfl

def install (env : Env) (s : St) (f : Nat) (J : Bytes) (id : Nat) (m : Mocker) : St :=
  { s with text := upd s.text f (overwrite (env.pristine f) J),
           patches := upd s.patches f (some ⟨(env.pristine f).take 13, J, some s.nGuards⟩),
           guards := upd s.guards s.nGuards ⟨f, (env.pristine f).take 13, J, true⟩,
           nGuards := s.nGuards + 1, mockers := upd s.mockers id m }

theorem install_inv {env : Env} {s : St} (hi : Inv env s) {f : Nat} {J : Bytes} (hJ : J.length = 13)
    {id : Nat} {m : Mocker} (hm : m.target = (s.mockers id).target) (hf : m.target = f) (hg : m.guard = some s.nGuards) :
    Inv env (install env s f J id m) := by
  have old : ∀ g, g < s.nGuards → (install env s f J id m).guards g = s.guards g := fun g h => upd_other _ _ _ _ (Nat.ne_of_lt h)
  have new : (install env s f J id m).guards s.nGuards = ⟨f, (env.pristine f).take 13, J, true⟩ := upd_same
  have tgt : ∀ j, ((install env s f J id m).mockers j).target = (s.mockers j).target := upd_congr Mocker.target hm
  refine ⟨?_, ?_, ?_, ?_, ?_⟩
  · intro g hg'
    rcases Nat.lt_succ_iff_lt_or_eq.mp hg' with h | h
    · rw [old g h]; exact hi.saved g h
    · rw [h, new]; exact ⟨rfl, hJ⟩
  · intro x
    by_cases hx : x = f
    · rw [hx]
      exact Or.inr ⟨_, _, upd_same, rfl, by rw [new], by rw [new]; exact upd_same⟩
    · refine (hi.txt x).imp (fun h => (upd_other _ _ _ _ hx).trans h) fun ⟨p', g', h1, h2, h3, h4⟩ => ?_
      have := old g' (hi.reg x p' g' h1 h2).1
      exact ⟨p', g', (upd_other _ _ _ _ hx).trans h1, h2, by rw [this]; exact h3, by rw [this]; exact (upd_other _ _ _ _ hx).trans h4⟩
  · intro x p' g' h1 h2
    by_cases hx : x = f
    · rw [hx] at h1
      cases upd_same.symm.trans h1
      cases h2
      exact ⟨Nat.lt_succ_self _, by rw [new]; exact hx.symm⟩
    · have hr := hi.reg x p' g' ((upd_other _ _ _ _ hx).symm.trans h1) h2
      exact ⟨Nat.lt_succ_of_lt hr.1, by rw [old g' hr.1]; exact hr.2⟩
  · intro j g h
    rw [tgt]
    by_cases hj : j = id
    · rw [hj] at h ⊢
      cases hg.symm.trans ((congrArg Mocker.guard upd_same).symm.trans h)
      exact ⟨Nat.lt_succ_self _, by rw [new]; exact hf.symm.trans hm⟩
    · have hr := hi.mg j g ((congrArg Mocker.guard (upd_other _ _ _ _ hj)).symm.trans h)
      exact ⟨Nat.lt_succ_of_lt hr.1, by rw [old g hr.1]; exact hr.2⟩
  · intro b key j h
    rw [tgt]
    exact hi.ck b key j h

/-- a successful `applyBy*` is `unpatchValue` followed by `install` (and the adapter bookkeeping) -/
theorem applyImp_install {env : Env} {s : St} {id : Nat} {imp : Imp} {ph : Nat → Option Nat}
    (ht : (unpatchValue s (s.mockers id).target).text (s.mockers id).target = env.pristine (s.mockers id).target)
    (hm : (unpatchValue s (s.mockers id).target).mockers = s.mockers)
    (h : replaceFunc env s (s.mockers id).target (dest env s id imp) (s.mockers id).origin =
      mkGuard { register (unpatchValue s (s.mockers id).target) (s.mockers id).target
                  ⟨((unpatchValue s (s.mockers id).target).text (s.mockers id).target).take 13, jumpTo (dest env s id imp), none⟩ with ph := ph }
        (s.mockers id).target ⟨((unpatchValue s (s.mockers id).target).text (s.mockers id).target).take 13, jumpTo (dest env s id imp), none⟩) :
    applyImp env s id imp =
      ({ install env (unpatchValue s (s.mockers id).target) (s.mockers id).target (jumpTo (dest env s id imp)) id
            { (s.mockers id) with guard := some (unpatchValue s (s.mockers id).target).nGuards, imp := some imp, canceled := false } with
          ph := ph,
          nAdapt := if env.generic (s.mockers id).target = true then s.nAdapt + 1 else s.nAdapt,
          adapt := if env.generic (s.mockers id).target = true then upd s.adapt s.nAdapt (some imp) else s.adapt }, none) := by
  rw [applyImp_ok (h.trans rfl)]
  simp only [register, guardApply, install, upd_same, upd_upd, ht, hm]

/-- what the proofs read of the result `r` of `applyImp`; the complete description of the two kinds of result is `applyImp_error`
    with `replaceFunc_exits`, and `applyImp_install` -/
structure Applied (env : Env) (s : St) (id : Nat) (imp : Imp) (r : St × Option Err) : Prop where
  inv : Inv env r.1
  shape : r.1 = { s with text := r.1.text, ph := r.1.ph, patches := r.1.patches, guards := r.1.guards, nGuards := r.1.nGuards,
                         mockers := r.1.mockers, nAdapt := r.1.nAdapt, adapt := r.1.adapt }
  le : Le s r.1
  text : ∀ x, x ≠ (s.mockers id).target → r.1.text x = s.text x
  patches : ∀ x, x ≠ (s.mockers id).target → r.1.patches x = s.patches x
  guards : ∀ g, g < s.nGuards → r.1.guards g = s.guards g
  others : ∀ j, j ≠ id → r.1.mockers j = s.mockers j
  hasWhen : (r.1.mockers id).hasWhen = (s.mockers id).hasWhen
  err : r.2 ≠ none → r.1.text (s.mockers id).target = env.pristine (s.mockers id).target
  /-- the second conjunct is the sentinel test `replaceFunc` passed (`checkAlreadyPatch` reads byte 0 only): every `jumpTo a` begins
      with 0x90, so it is the one reason the installed jump differs from the pristine head (`Applied.mocked`) -/
  ok : r.2 = none →
    r.1.text (s.mockers id).target = overwrite (env.pristine (s.mockers id).target) (jumpTo (dest env s id imp)) ∧
    Gen.Amd64.checkAlreadyPatch ((env.pristine (s.mockers id).target).take 13) = false ∧
    Denotes env r.1 (dest env s id imp) imp ∧
    (r.1.mockers id).imp = some imp ∧ (r.1.mockers id).canceled = false ∧
    ∃ g, (r.1.mockers id).guard = some g ∧ (r.1.guards g).jumpBytes = jumpTo (dest env s id imp) ∧
      ∀ p g', r.1.patches (s.mockers id).target = some p → p.guard = some g' → g' = g

theorem applyImp_spec {env : Env} (he : EnvOk env) {s : St} (hi : Inv env s) (id : Nat) (imp : Imp) :
    Applied env s id imp (applyImp env s id imp) := by
  obtain ⟨i0, t0, tf0, pf0⟩ := unpatchValue_spec he hi (s.mockers id).target
  have po0 := unpatchValue_shape s (s.mockers id).target
  have g0 : (unpatchValue s (s.mockers id).target).guards = s.guards := (congrArg St.guards po0 :)
  have n0 : (unpatchValue s (s.mockers id).target).nGuards = s.nGuards := (congrArg St.nGuards po0 :)
  have hm : (unpatchValue s (s.mockers id).target).mockers = s.mockers := (congrArg St.mockers po0 :)
  have hc : counters (unpatchValue s (s.mockers id).target) = counters s := (congrArg counters po0 :)
  rcases replaceFunc_exits env s (s.mockers id).target (dest env s id imp) (s.mockers id).origin with
    ⟨p, e, hp, hr, _⟩ | ⟨_, hn, ph, hr⟩
  · rw [applyImp_error hr]
    exact ⟨i0.set_patch _ t0 (some p) fun _ h => Option.some.inj h ▸ hp, by rw [show unpatchValue s _ = _ from po0]; rfl, .of_eq hc,
      tf0, fun x hx => (upd_other _ _ _ _ hx).trans (pf0 x hx), fun g _ => congrFun g0 g, fun j _ => congrFun hm j,
      congrArg Mocker.hasWhen (congrFun hm id), fun _ => t0, fun h => nomatch h⟩
  · rw [applyImp_install t0 hm hr]
    rw [t0] at hn
    simp only [counters, Prod.mk.injEq] at hc
    refine ⟨(install_inv i0 (J := jumpTo (dest env s id imp))
        (m := { (s.mockers id) with guard := some _, imp := some imp, canceled := false }) rfl (by rw [hm]) rfl rfl).congr rfl rfl rfl rfl rfl rfl rfl fun _ => ⟨rfl, rfl⟩,
      by rw [show unpatchValue s _ = _ from po0]; rfl, ⟨Nat.le_of_eq hc.1.symm, Nat.le_of_eq hc.2.1.symm, ?_, ?_⟩,
      fun x hx => (upd_other _ _ _ _ hx).trans (tf0 x hx), fun x hx => (upd_other _ _ _ _ hx).trans (pf0 x hx),
      fun g hg => (upd_other _ _ _ _ (n0 ▸ Nat.ne_of_lt hg)).trans (congrFun g0 g),
      fun j hj => (upd_other _ _ _ _ hj).trans (congrFun hm j),
      (congrArg Mocker.hasWhen upd_same :), fun h => absurd rfl h, fun _ => ?_⟩
    · dsimp only
      split
      · exact Nat.le_succ _
      · exact Nat.le_refl _
    · intro n hn
      dsimp only
      split
      · exact upd_other _ _ _ _ (Nat.ne_of_lt hn)
      · rfl
    · refine ⟨upd_same, hn, ?_, congrArg Mocker.imp upd_same, congrArg Mocker.canceled upd_same,
        _, congrArg Mocker.guard upd_same, congrArg Guard.jumpBytes upd_same, fun p g' h1 h2 => ?_⟩
      · unfold Denotes dest
        dsimp only
        split
        · exact Or.inr ⟨s.nAdapt, Nat.lt_succ_self _, rfl, upd_same⟩
        · exact Or.inl rfl
      · cases upd_same.symm.trans h1
        exact Option.some.inj h2.symm

theorem Inv.set_mocker {env : Env} {s : St} (hi : Inv env s) (id : Nat) {m : Mocker} (ht : m.target = (s.mockers id).target)
    (hg : m.guard = (s.mockers id).guard) {n : Nat} : Inv env { s with mockers := upd s.mockers id m, nStubs := n } :=
  hi.congr rfl rfl rfl rfl rfl rfl rfl fun j => ⟨upd_congr Mocker.target ht j, upd_congr Mocker.guard hg j⟩

theorem whens_inv {env : Env} {s : St} (hi : Inv env s) (id : Nat) : Inv env (whens s id) :=
  hi.set_mocker id (by rfl) (by rfl)

theorem whens_target {s : St} {id j : Nat} : ((whens s id).mockers j).target = (s.mockers j).target :=
  upd_congr Mocker.target (by rfl) j

theorem getMocker_cases (s : St) (b key : Nat) :
    getMocker s b key = getMocker.fresh s b key ∨
    ∃ id, s.cache b key = some id ∧ (s.mockers id).canceled = false ∧ getMocker s b key = (s, id) := by
  unfold getMocker
  cases hc : s.cache b key with
  | none => exact Or.inl rfl
  | some id =>
    dsimp only
    split
    · exact Or.inl rfl
    · next hn => exact Or.inr ⟨id, rfl, Bool.eq_false_iff.mpr hn, rfl⟩

theorem getMocker_spec {env : Env} {s : St} (hi : Inv env s) (b key : Nat) :
    Inv env (getMocker s b key).1 ∧
    (getMocker s b key).1 = { s with mockers := (getMocker s b key).1.mockers, nMockers := (getMocker s b key).1.nMockers,
                                     cache := (getMocker s b key).1.cache, keys := (getMocker s b key).1.keys } ∧
    (getMocker s b key).2 < (getMocker s b key).1.nMockers ∧ s.nMockers ≤ (getMocker s b key).1.nMockers ∧
    (∀ j, j < s.nMockers → (getMocker s b key).1.mockers j = s.mockers j) ∧
    ((getMocker s b key).1.mockers (getMocker s b key).2).target = key % 1000 := by
  have old : ∀ j, j < s.nMockers → (getMocker.fresh s b key).1.mockers j = s.mockers j :=
    fun j h => upd_other _ _ _ _ (Nat.ne_of_lt h)
  have fresh : Inv env (getMocker.fresh s b key).1 := by
    refine ⟨hi.saved, hi.txt, hi.reg, ?_, ?_⟩
    · intro j g h
      by_cases hj : j = s.nMockers
      · rw [hj] at h
        exact nomatch (congrArg Mocker.guard upd_same).symm.trans h
      · rw [show (getMocker.fresh s b key).1.mockers j = s.mockers j from upd_other _ _ _ _ hj] at h ⊢
        exact hi.mg j g h
    · intro b' key' j h
      by_cases hb : b' = b ∧ key' = key
      · cases (if_pos hb).symm.trans h
        obtain ⟨rfl, rfl⟩ := hb
        refine ⟨congrArg Mocker.target upd_same, ?_, Nat.lt_succ_self _⟩
        show key' ∈ (if b' = b' ∧ ¬ key' ∈ s.keys b' then key' :: s.keys b' else s.keys b')
        split
        · exact List.mem_cons_self
        · next hn => exact Decidable.of_not_not fun h => hn ⟨rfl, h⟩
      · obtain ⟨h1, h2, h3⟩ := hi.ck b' key' j ((if_neg hb).symm.trans h)
        refine ⟨(congrArg Mocker.target (old j h3)).trans h1, ?_, Nat.lt_succ_of_lt h3⟩
        show key' ∈ (if b' = b ∧ ¬ key ∈ s.keys b then key :: s.keys b' else s.keys b')
        split
        · exact List.mem_cons_of_mem _ h2
        · exact h2
  rcases getMocker_cases s b key with e | ⟨id, hc, _, e⟩
  · rw [e]
    exact ⟨fresh, rfl, Nat.lt_succ_self _, Nat.le_succ _, old, congrArg Mocker.target upd_same⟩
  · rw [e]
    exact ⟨hi, rfl, (hi.ck b key id hc).2.2, Nat.le_refl _, fun _ _ => rfl, (hi.ck b key id hc).1⟩

end C02L
