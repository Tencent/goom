import GoomVerif.Model.Sym
namespace C10L
open Sym

variable {N : Type} [DecidableEq N] {l : List (N × Addr)} {e : N × Addr} {n : N}

theorem lookup_cons_eq (h : e.1 = n) : lookup (e :: l) n = some e.2 :=
  if_pos h

theorem lookup_cons_ne (h : e.1 ≠ n) : lookup (e :: l) n = lookup l n :=
  if_neg h

theorem lookup_append_of_ne {p : List (N × Addr)} (hp : ∀ e ∈ p, e.1 ≠ n) : lookup (p ++ l) n = lookup l n := by
  induction p with
  | nil => rfl
  | cons e p ih =>
    rw [List.forall_mem_cons] at hp
    rw [List.cons_append, lookup_cons_ne hp.1, ih hp.2]

theorem lookup_some_iff {a : Addr} :
    lookup l n = some a ↔ ∃ pre post, l = pre ++ (n, a) :: post ∧ ∀ e ∈ pre, e.1 ≠ n := by
  constructor
  · intro h
    induction l with
    | nil => cases h
    | cons e rest ih =>
      by_cases he : e.1 = n
      · rw [lookup_cons_eq he, Option.some.injEq] at h
        exact ⟨[], rest, by rw [← he, ← h]; rfl, nofun⟩
      · rw [lookup_cons_ne he] at h
        obtain ⟨p, q, hl, hp⟩ := ih h
        exact ⟨e :: p, q, by rw [hl]; rfl, List.forall_mem_cons.2 ⟨he, hp⟩⟩
  · rintro ⟨p, q, rfl, hp⟩
    rw [lookup_append_of_ne hp, lookup_cons_eq rfl]

theorem lookup_none_iff : lookup l n = none ↔ ∀ e ∈ l, e.1 ≠ n := by
  induction l with
  | nil => exact iff_of_true rfl (fun _ h => nomatch h)
  | cons e rest ih =>
    rw [List.forall_mem_cons]
    by_cases he : e.1 = n
    · rw [lookup_cons_eq he]
      exact iff_of_false (fun h => nomatch h) (fun h => h.1 he)
    · rw [lookup_cons_ne he, ih, and_iff_right he]

theorem lookup_of_mem_nodup (h : (l.map Prod.fst).Nodup) (he : e ∈ l) :
    lookup l e.1 = some e.2 := by
  induction l with
  | nil => cases he
  | cons x rest ih =>
    rw [List.map_cons, List.nodup_cons] at h
    rcases List.mem_cons.1 he with rfl | he
    · exact lookup_cons_eq rfl
    · rw [lookup_cons_ne fun hx => h.1 (hx ▸ List.mem_map_of_mem he)]
      exact ih h.2 he

/-- what a caller gets from what the lookup found: `f x` for the entry's address `x` (in the code `x + slide`), or the
    not-found error `er` of that kind of symbol -/
def answer (o : Option Addr) (er : Err) (f : Addr → Addr) : Res :=
  match o with
  | some x => .ok (f x)
  | none => .err er

/-- `f` matters only on the addresses in the table -/
theorem answer_ok_iff {f g : Addr → Addr} (h : ∀ e ∈ l, f e.2 = g e.2) (er : Err) (a : Addr) :
    answer (lookup l n) er f = .ok a ↔ ∃ p q x, l = p ++ (n, x) :: q ∧ (∀ e ∈ p, e.1 ≠ n) ∧ a = g x := by
  constructor
  · intro ha
    cases hl : lookup l n with
    | none => rw [hl] at ha; cases ha
    | some x =>
      rw [hl] at ha
      obtain ⟨p, q, hpq, hp⟩ := lookup_some_iff.1 hl
      exact ⟨p, q, x, hpq, hp, (Res.ok.inj ha).symm.trans (h _ (hpq ▸ List.mem_append_cons_self))⟩
  · rintro ⟨p, q, x, hpq, hp, rfl⟩
    rw [lookup_some_iff.2 ⟨p, q, hpq, hp⟩]
    exact congrArg Res.ok (h _ (hpq ▸ List.mem_append_cons_self))

theorem answer_err_iff (er : Err) (f : Addr → Addr) : answer (lookup l n) er f = .err er ↔ ∀ e ∈ l, e.1 ≠ n := by
  rw [← lookup_none_iff]
  cases lookup l n with
  | none => exact iff_of_true rfl rfl
  | some x => exact iff_of_false (fun h => nomatch h) (fun h => nomatch h)

/-- `(x + b) - x = b` in `uintptr` arithmetic: the slide is recovered exactly, whatever the bias -/
theorem slide_eq_bias (x b : Addr) : (x + b) - x = b :=
  BitVec.add_comm x b ▸ BitVec.add_sub_cancel b x

/-- `getFunctionSymbolByName` / `getVarSymbolByName` as functions of the file alone -/
def funcOf (env : Env N) (n : N) : Except Err Addr := funcIn (load env.file) n

def varOf (env : Env N) (n : N) : Except Err Addr := varIn (load env.file) n

/-- value of `funcAlignment` after `initAlignmentFunc` -/
def fAlignOf (env : Env N) : Addr :=
  match funcOf env env.anchorF with
  | .ok fa => env.memF - fa
  | .error _ => 0

/-- value of `varAlignment` after `initAlignmentFunc` (stays 0 when either anchor is missing) -/
def vAlignOf (env : Env N) : Addr :=
  match funcOf env env.anchorF with
  | .error _ => 0
  | .ok _ =>
    match varOf env env.anchorV with
    | .ok va => env.memV - va
    | .error _ => 0

/-- closed form of a call result: independent of the package state -/
def spec (env : Env N) : Op N → Res
  | .findFunc n => resOf (funcOf env n) (fAlignOf env)
  | .findVar n => resOf (varOf env n) (vAlignOf env)
  | .expose n => resOf (funcOf env n) (fAlignOf env)
  | .allFuncs => allFuncsIn (load env.file)

/-- an invariant of the package states reachable from the initial one (it also admits `once = true` with `tab = none`,
    which no run reaches) -/
structure Inv (env : Env N) (s : St N) : Prop where
  tab : s.tab = none ∨ s.tab = some (load env.file)
  fresh : s.once = false → s.fAlign = 0 ∧ s.vAlign = 0
  done : s.once = true → s.fAlign = fAlignOf env ∧ s.vAlign = vAlignOf env

theorem inv_init (env : Env N) : Inv env ({} : St N) :=
  ⟨Or.inl rfl, fun _ => ⟨rfl, rfl⟩, fun h => nomatch h⟩

section
variable {env : Env N} {s : St N}

theorem table_eq (h : Inv env s) : table env s = load env.file := by
  rcases h.tab with ht | ht <;> rw [table, ht]

theorem inv_touch (h : Inv env s) : Inv env (touch env s) :=
  ⟨Or.inr (congrArg some (table_eq h)), h.fresh, h.done⟩

/-- `initAlignmentFunc` when the `Once` has not fired: the alignments were 0, so wherever it returns (first anchor
    missing, second anchor missing, both found) it leaves the values of the closed form -/
theorem initAlign_fresh (h : Inv env s) (ho : s.once = false) :
    initAlign env s = ⟨some (load env.file), true, fAlignOf env, vAlignOf env⟩ := by
  obtain ⟨hF, hV⟩ := h.fresh ho
  unfold initAlign fAlignOf vAlignOf funcSym varSym funcOf varOf
  rw [touch, table_eq h, if_neg (ho ▸ Bool.false_ne_true), hF, hV]
  cases funcIn (load env.file) env.anchorF with
  | error _ => rfl
  | ok fa => cases varIn (load env.file) env.anchorV <;> rfl

theorem initAlign_spec (h : Inv env s) : Inv env (initAlign env s) ∧ (initAlign env s).once = true := by
  cases ho : s.once with
  | true => rw [initAlign, if_pos ho]; exact ⟨h, ho⟩
  | false => rw [initAlign_fresh h ho]; exact ⟨⟨Or.inr rfl, nofun, fun _ => ⟨rfl, rfl⟩⟩, rfl⟩

/-- the three lookups run `initAlign` first, after which the alignments are those of `Inv.done` -/
theorem step_spec (h : Inv env s) (op : Op N) : Inv env (step env s op).1 ∧ (step env s op).2 = spec env op := by
  obtain ⟨hi, ho⟩ := initAlign_spec h
  obtain ⟨hf, hv⟩ := hi.done ho
  cases op with
  | allFuncs => exact ⟨inv_touch h, congrArg allFuncsIn (table_eq h)⟩
  | findFunc n => exact ⟨inv_touch hi, congr (congrArg (resOf <| funcIn · n) (table_eq hi)) hf⟩
  | findVar n => exact ⟨inv_touch hi, congr (congrArg (resOf <| varIn · n) (table_eq hi)) hv⟩
  | expose n => exact ⟨inv_touch hi, congr (congrArg (resOf <| funcIn · n) (table_eq hi)) hf⟩

end

theorem run_spec {env : Env N} (ops : List (Op N)) : ∀ {s : St N}, Inv env s →
    Inv env (run env s ops).1 ∧ (run env s ops).2 = ops.map (spec env) := by
  induction ops with
  | nil => intro s h; exact ⟨h, rfl⟩
  | cons op ops ih =>
    intro s h
    obtain ⟨h1, h2⟩ := step_spec h op
    obtain ⟨h3, h4⟩ := ih h1
    exact ⟨h3, by rw [run, List.map_cons, h2, h4]⟩

theorem runSched_spec {env : Env N} (sched : List Nat) : ∀ {s : St N} (threads : List (List (Op N))), Inv env s →
    ∀ x ∈ runSched env s threads sched, x.2 = spec env x.1 := by
  induction sched with
  | nil => intro s threads _ x hx; cases hx
  | cons t sched ih =>
    intro s threads hs x hx
    unfold runSched at hx
    split at hx
    · rename_i op rest _
      obtain ⟨h1, h2⟩ := step_spec hs op
      rcases List.mem_cons.1 hx with rfl | hx
      · exact h2
      · exact ih _ h1 x hx
    · exact ih threads hs x hx

theorem resAfter_eq (env : Env N) (pre : List (Op N)) (op : Op N) : resAfter env pre op = spec env op :=
  (step_spec (run_spec pre (inv_init env)).1 op).2

theorem resAfter_expose (env : Env N) (pre : List (Op N)) (n : N) :
    resAfter env pre (.expose n) = resAfter env pre (.findFunc n) := by
  rw [resAfter_eq, resAfter_eq]; rfl

end C10L
