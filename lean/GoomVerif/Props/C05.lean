import GoomVerif.Lemmas.C05L
/-!
# C05 — result sequences are served in order, stick at the last element, and stay safe under concurrent callers

Sequential part: theorems about `serve`, `call`, `calls` (all sequence lengths, all call lists, all `When` states).
Concurrent part: theorems about `run` over **every** event list, i.e. every interleaving of any number of threads
(`sched_total` shows that every list of thread ids is a schedule, so nothing is excluded by well-formedness).

About "once the last element has been returned it is the only one returned": read literally over wall-clock return
instants this is false for the code (`literal_sticky_fails`: a caller that loaded the cursor before the last element
was handed out can return an earlier element afterwards).  What holds, and what is proved (`conc_sticky`), is the
real-time version: every call that *starts* after a call returned the last element returns the last element.
-/
namespace C05
open Cursor C05L

/-! Sequential clause: every stub serves its own sequence in order and sticks at the last element. -/

/-- `(*BaseMatcher).Result`, one caller: for every sequence length `n ≥ 1` and every `k`, the `k`-th call (0-based)
    returns element `min k (n-1)` — the first `n` calls walk the sequence, all later ones get the last element. -/
theorem seq_kth (n k : Nat) (hn : 1 ≤ n) : (serve n (cursorAfter n k 0)).1 = min k (n - 1) := by
  rcases Nat.lt_or_ge 1 n with h | h
  · rw [cursorAfter_of_le h k 0 (Nat.zero_le n), Nat.zero_add]
    rcases Nat.lt_or_ge k n with hk | hk
    · rw [Nat.min_eq_left (Nat.le_of_lt hk), serve_of_lt h hk]
      exact (Nat.min_eq_left (Nat.le_sub_one_of_lt hk)).symm
    · rw [Nat.min_eq_right hk, serve_of_ge h (Nat.le_refl n)]
      exact (Nat.min_eq_right (Nat.le_trans (Nat.sub_le n 1) hk)).symm
  · rw [cursorAfter_fixed (serve_of_le_one 0 h), serve_of_le_one 0 h, Nat.le_antisymm h hn]
    exact (Nat.min_eq_right (Nat.zero_le k)).symm

example : (List.range 6).map (fun k => (serve 3 (cursorAfter 3 k 0)).1) = [0, 1, 2, 2, 2, 2] := by decide +kernel

/-- the cursor itself: it never moves on the single-result path and otherwise stops at `n` (so it cannot run away
    under sequential use) -/
theorem seq_cursor (n k : Nat) : cursorAfter n k 0 = if n ≤ 1 then 0 else min k n := by
  split
  · exact cursorAfter_fixed (serve_of_le_one 0 ‹_›) k
  · rw [cursorAfter_of_le (Nat.lt_of_not_le ‹_›) k 0 (Nat.zero_le n), Nat.zero_add]

/-- `(*When).AndReturn` / `(*When).Returns`: `Return(v).AndReturn(v₂)…` and `Returns(v, v₂, …)` are the same configuration.  Definitional (`rfl`): the
    content is the hand transcription of `(*When).Returns` in `rets`, which is tied to the code by the differential runs only. -/
theorem return_andReturn_eq_returns (w : When) (v : Nat) (vs : List Nat) : vs.foldl andRet (ret w v) = rets w (v :: vs) := rfl

/-- `(*When).When` / `(*When).In` followed by `(*When).Returns`: `When(c).Returns(v, vs…)` (equally `.Return(v).AndReturn(…)…`) on **any** `When` creates
    one new stub whose sequence is exactly `v :: vs` with the cursor at the start, puts it last in the match order,
    and leaves every existing stub (results *and* cursor) and the default untouched. -/
theorem returns_builds_condition (w : When) (c : Cond) (v : Nat) (vs : List Nat) :
    let w' := rets (whenOp w c) (v :: vs)
    w'.ms[w.ms.length]? = some ⟨c, v :: vs, 0⟩ ∧ w'.mlist = w.mlist ++ [w.ms.length] ∧ w'.dflt = w.dflt ∧
    (∀ j, j < w.ms.length → w'.ms[j]? = w.ms[j]?) ∧ w'.ms.length = w.ms.length + 1 := by
  intro w'
  rw [show w' = _ from rets_whenOp w c v vs]
  exact ⟨List.getElem?_concat_length, rfl, rfl, fun j hj => List.getElem?_append_left hj, List.length_append⟩

/-- `DefMocker.Returns(v, vs…)` on a fresh mocker, and `DefMocker.Return(v)` followed by `AndReturn…`: the
    default stub gets exactly the sequence `v :: vs`, cursor at the start, and is what unmatched calls select. -/
theorem returns_builds_default (v : Nat) (vs : List Nat) :
    (rets (createWhen none none) (v :: vs)).ms = [⟨.always, v :: vs, 0⟩] ∧
    (rets (createWhen none none) (v :: vs)).dflt = some 0 ∧ (rets (createWhen none none) (v :: vs)).mlist = [] ∧
    (vs.foldl andRet (createWhen none (some v))).ms = [⟨.always, v :: vs, 0⟩] ∧
    (vs.foldl andRet (createWhen none (some v))).dflt = some 0 ∧ (vs.foldl andRet (createWhen none (some v))).mlist = [] := by
  have h1 : rets (createWhen none none) (v :: vs) = ⟨[⟨.always, v :: vs, 0⟩], [], some 0, none⟩ :=
    foldl_andRet (w := ret (createWhen none none) v) (m := ⟨.always, [v], 0⟩) vs rfl rfl
  have h2 : vs.foldl andRet (createWhen none (some v)) = ⟨[⟨.always, v :: vs, 0⟩], [], some 0, some 0⟩ :=
    foldl_andRet (w := createWhen none (some v)) (m := ⟨.always, [v], 0⟩) vs rfl rfl
  rw [h1, h2]
  exact ⟨rfl, rfl, rfl, rfl, rfl, rfl⟩

/-- `(*When).In()` **without alternatives** (e.g. an empty list spread into it) still declares a stub of its own: the
    `Return/Returns` that follows belongs to that new stub (`returns_builds_condition` with `c = isIn []`: nothing is appended to
    the previously selected condition or to the default), and as it can never match, which stub any call selects is exactly what
    it was before.  (`hwf`: the match order only mentions existing stubs; a hypothesis here — no theorem of this file derives it for the
    `When`s the API builds.) -/
theorem empty_in_stub_is_dead (w : When) (v : Nat) (vs : List Nat) (hwf : ∀ i ∈ w.mlist, i < w.ms.length) (a : Nat) :
    select (rets (whenOp w (.isIn [])) (v :: vs)) a = select w a := by
  rw [rets_whenOp]
  exact select_append_dead hwf rfl _

/-- `When(1).Returns(10, 11)`, then `In().Returns(7, 8)`: calls with 1 keep getting 10, 11, 11, … -/
example : (calls (rets (whenOp (rets (whenOp (createWhen none none) (.eq 1)) [10, 11]) (.isIn [])) [7, 8]) [1, 1, 1, 1]).map (·.2) =
    [.val 10, .val 11, .val 11, .val 11] := by decide +kernel

/-- mocker.go `Returns` on a mocker without a `When` (all mocker kinds; targets with results): the call installs a `When` exactly
    when it carries values.  A first `Returns()` with no values is rejected (`*erro.ReturnsNotMatch`) and leaves the mocker
    untouched — it does not yield a bare, result-less `When` whose calls would panic —, so every later
    operation sees the same state as if the call had not been made; with values the default is built as in
    `returns_builds_default`. -/
theorem first_returns_installs_iff_values (vs : List Nat) (ops : List Op) :
    ((opStep none (.mRets vs)).1 = none ↔ vs = []) ∧
    runOps none (.mRets [] :: ops) = .rejected :: runOps none ops ∧
    endState none (.mRets [] :: ops) = endState none ops := by
  refine ⟨?_, rfl, rfl⟩
  cases vs with
  | nil => exact ⟨fun _ => rfl, fun _ => rfl⟩
  | cons v vs => exact ⟨(fun h => nomatch h), (fun h => nomatch h)⟩

example : runOps none [.mRets [], .call 3, .mRets [7, 8], .call 3, .call 3, .wRets [], .call 3] =
    [.rejected, .orig, .val 7, .val 8, .val 8] := by decide +kernel

/-- `(*When).Matches(Pair{a₁,v₁}, …)`: every pair becomes its own one-element stub at the end of the match order, and every
    stub that existed before — its sequence and its cursor —, the default and the current condition are untouched.
    (False for the source as it stood before fix F23: `Matches` first called `w.Return(v)` for every pair, which appended
    `v` to the sequence of the current condition or of the default.) -/
theorem matches_builds (ps : List (Nat × Nat)) : ∀ (w : When),
    (matchesOp w ps).ms = w.ms ++ ps.map (fun p => ⟨.eq p.1, [p.2], 0⟩) ∧
    (matchesOp w ps).mlist = w.mlist ++ (List.range ps.length).map (· + w.ms.length) ∧
    (matchesOp w ps).dflt = w.dflt ∧ (matchesOp w ps).curMatch = w.curMatch := by
  -- read from the source: the loop of `Matches` does not call `w.Return`; `matchPair` reduces through this flag below
  have _ : Gen.Cursor.matchesReturnsFirst = false := rfl
  induction ps with
  | nil => intro w; exact ⟨(List.append_nil _).symm, (List.append_nil _).symm, rfl, rfl⟩
  | cons p ps ih =>
    intro w
    obtain ⟨h1, h2, h3, h4⟩ := ih (matchPair w p)
    refine ⟨h1.trans (List.append_assoc ..), h2.trans ?_, h3, h4⟩
    -- `matchPair` puts index `|w.ms|` last in the match order and makes the arena one longer
    show w.mlist ++ [w.ms.length] ++ (List.range ps.length).map (· + (w.ms ++ [(⟨.eq p.1, [p.2], 0⟩ : Matcher)]).length) = _
    rw [List.append_assoc, List.length_append, List.length_singleton, List.length_cons, List.range_succ_eq_map, List.map_cons,
      List.map_map, Nat.zero_add]
    exact congrArg (w.mlist ++ w.ms.length :: ·) (List.map_congr_left fun k _ => (Nat.add_right_comm k 1 _).symm)
/-- the existing stubs keep serving their own sequences after a `Matches` (with `calls_kth`: the default given `[7]`
    still answers 7 forever) -/
example : (calls (matchesOp (createWhen none (some 7)) [(1, 5), (2, 6)]) [0, 1, 0, 2, 0]).map (·.2) =
    [.val 7, .val 5, .val 7, .val 6, .val 7] := by decide +kernel

/-- **in order + sticky + independent** (the sequential clause of the property, full strength):
    in any `When` state, for a stub `i` holding `n ≥ 1` results whose cursor is at the start, and for **every** list of
    calls (selecting `i` or any other stub or nothing, in any interleaving), the `k`-th of the calls that select `i`
    receives `results[min k (n-1)]`. -/
theorem calls_kth (w : When) (i : Nat) (m : Matcher) (as : List Nat) (hm : w.ms[i]? = some m) (hn : 1 ≤ m.results.length)
    (h0 : m.cur = 0) :
    outputsOf i (calls w as) =
      (List.range (as.filter (fun a => select w a == some i)).length).map
        (fun k => obsOf m.results[min k (m.results.length - 1)]?) := by
  rw [outputsOf_calls i as w m hm]
  apply List.map_congr_left
  intro k _
  rw [expected, h0, seq_kth _ k hn]

example : outputsOf 1 (calls ⟨[⟨.always, [7, 8], 0⟩, ⟨.eq 5, [1, 2, 3], 0⟩], [1], some 0, none⟩ [5, 9, 5, 5, 9, 5, 9]) =
    [.val 1, .val 2, .val 3, .val 3] := by decide +kernel

/-- **independence** (frame): a call never changes which stub any argument selects, and it leaves every stub other
    than the selected one — results and cursor — exactly as it was; conditions and the default therefore advance
    independently of each other.
    (What could break this in Go is aliasing — two matchers sharing one `*BaseMatcher` —, which the arena model cannot express:
    that half of independence rests on the differential runs, incl. two targets per builder and back-to-back variadic conditions.) -/
theorem independent (w : When) (a : Nat) :
    (∀ b, select (call w a).2.2 b = select w b) ∧ (∀ i, select w a ≠ some i → (call w a).2.2.ms[i]? = w.ms[i]?) :=
  (call_shape w a).2

/-- the sequential clause end to end: configure a condition with `When(c).Returns(v, vs…)` on top of **any** existing
    configuration `w`; then for **every** list of calls the `k`-th call selecting the new stub gets `(v :: vs)[min k |vs|]`,
    whatever the other calls (which advance other conditions or the default) do in between. -/
theorem configured_sequence_served (w : When) (c : Cond) (v : Nat) (vs : List Nat) (as : List Nat) :
    let w' := rets (whenOp w c) (v :: vs)
    outputsOf w.ms.length (calls w' as) =
      (List.range (as.filter (fun a => select w' a == some w.ms.length)).length).map
        (fun k => obsOf (v :: vs)[min k vs.length]?) := by
  intro w'
  exact calls_kth w' w.ms.length _ as (returns_builds_condition w c v vs).1 (Nat.succ_pos _) rfl

/-- and the same stub, in isolation, is a pure function of how many calls selected it: the sequence restarts for
    nobody, skips nothing, repeats only the last element -/
example : (calls (rets (whenOp (createWhen none (some 9)) (.eq 4)) [1, 2]) [4, 0, 4, 4, 0]).map (·.2) =
    [.val 1, .val 9, .val 2, .val 2, .val 9] := by decide +kernel

/-- declare conditions one after the other, each with its own non-empty sequence: `When(c₁).Returns(v₁, vs₁…)`, `When(c₂)…` -/
def configure (w : When) : List (Cond × Nat × List Nat) → When
  | [] => w
  | (c, v, vs) :: rest => configure (rets (whenOp w c) (v :: vs)) rest

/-- after a whole configuration every declared stub holds exactly its own sequence with the cursor at the start, and everything
    that existed before (older conditions, the default) is untouched — not only the stub declared last -/
theorem configure_stubs (specs : List (Cond × Nat × List Nat)) : ∀ (w : When),
    (∀ j c v vs, specs[j]? = some (c, v, vs) → (configure w specs).ms[w.ms.length + j]? = some ⟨c, v :: vs, 0⟩) ∧
    (∀ i, i < w.ms.length → (configure w specs).ms[i]? = w.ms[i]?) ∧ (configure w specs).dflt = w.dflt := by
  -- the arena after `configure` in closed form: the old stubs, then one stub per declaration
  have key : ∀ w : When, (configure w specs).ms = w.ms ++ specs.map (fun sp => ⟨sp.1, sp.2.1 :: sp.2.2, 0⟩) ∧
      (configure w specs).dflt = w.dflt := by
    induction specs with
    | nil => intro w; exact ⟨(List.append_nil _).symm, rfl⟩
    | cons sp rest ih =>
      intro w
      obtain ⟨c, v, vs⟩ := sp
      rw [configure, (ih _).1, (ih _).2, rets_whenOp, List.map_cons, List.append_assoc]
      exact ⟨rfl, rfl⟩
  intro w
  obtain ⟨hms, hd⟩ := key w
  refine ⟨fun j c v vs h => ?_, fun i hi => ?_, hd⟩
  · rw [hms, List.getElem?_append_right (Nat.le_add_right _ _), Nat.add_sub_cancel_left, List.getElem?_map, h]; rfl
  · rw [hms, List.getElem?_append_left hi]

/-- **every stub serves its own list** (whole-history form of the sequential clause): configure any number of conditions on
    top of any `When`; then for every declared stub `j` and every list of calls, the `k`-th call selecting stub `j` receives
    element `min k (n_j - 1)` of *its* sequence, whatever calls to the other stubs and the default happen in between. -/
theorem all_stubs_served (w : When) (specs : List (Cond × Nat × List Nat)) (j : Nat) (c : Cond) (v : Nat) (vs : List Nat)
    (hj : specs[j]? = some (c, v, vs)) (as : List Nat) :
    outputsOf (w.ms.length + j) (calls (configure w specs) as) =
      (List.range (as.filter (fun a => select (configure w specs) a == some (w.ms.length + j))).length).map
        (fun k => obsOf (v :: vs)[min k vs.length]?) := by
  exact calls_kth (configure w specs) (w.ms.length + j) _ as ((configure_stubs specs w).1 j c v vs hj) (Nat.succ_pos _) rfl

/-- **the default serves its own list** too: give the default `v :: vs` by `Returns(v, vs…)` on a fresh mocker (the route `Return(v)` + `AndReturn…` builds the same stub,
    `returns_builds_default`, but is not what this statement starts from), declare any
    conditions afterwards; the `k`-th call that falls through to the default receives element `min k |vs|`. -/
theorem default_sequence_served (v : Nat) (vs : List Nat) (specs : List (Cond × Nat × List Nat)) (as : List Nat) :
    let w := configure (rets (createWhen none none) (v :: vs)) specs
    w.dflt = some 0 ∧
    outputsOf 0 (calls w as) =
      (List.range (as.filter (fun a => select w a == some 0)).length).map (fun k => obsOf (v :: vs)[min k vs.length]?) := by
  intro w
  obtain ⟨d1, d2, -⟩ := returns_builds_default v vs
  obtain ⟨-, f2, f3⟩ := configure_stubs specs (rets (createWhen none none) (v :: vs))
  have h0 : w.ms[0]? = some ⟨.always, v :: vs, 0⟩ := by
    rw [f2 0 (by rw [d1]; exact Nat.zero_lt_one), d1]; rfl
  exact ⟨f3.trans d2, calls_kth w 0 _ as h0 (Nat.succ_pos _) rfl⟩

example : (calls (configure (rets (createWhen none none) [7, 7, 8]) [(.eq 1, 1, [1, 2]), (.isIn [1, 2], 5, []), (.eq 3, 9, [9, 4])])
    [3, 1, 0, 2, 3, 1, 0, 3, 1, 0, 0, 2]).map (·.2) =
    [.val 9, .val 1, .val 7, .val 5, .val 9, .val 1, .val 7, .val 4, .val 2, .val 8, .val 8, .val 5] := by decide +kernel

/-! Concurrent clause: one stub, any number of callers, every schedule of their micro-steps. -/

/-- every thread can always take its next step, so **every** list of thread ids is a schedule of the model: the
    theorems below, which quantify over all event lists accepted by `run`, exclude no interleaving -/
theorem sched_total (n : Nat) (σ : List Nat) : ∀ s : St, (run n s (sched n s σ)).isSome = true ∧ (sched n s σ).length = σ.length := by
  induction σ with
  | nil => intro s; exact ⟨rfl, rfl⟩
  | cons t σ ih =>
    intro s
    have hen : ∃ s', step n s (nextEv s t) = some s' := by
      unfold nextEv
      cases hpc : s.pc t with
      | idle => simp only [step, hpc]; exact ⟨_, rfl⟩
      | called => simp only [step, hpc]; exact ⟨_, rfl⟩
      | loaded v =>
        simp only [step, hpc]
        split
        · exact ⟨_, rfl⟩
        · split <;> exact ⟨_, rfl⟩
      | done r => simp only [step, hpc, if_true]; exact ⟨_, rfl⟩
    obtain ⟨s', hs'⟩ := hen
    obtain ⟨i1, i2⟩ := ih s'
    simp only [sched, hs', run, List.length_cons, i1, i2, and_self]

/-- a call that is not interleaved with anything behaves exactly like the sequential `serve` -/
theorem atomic_call_eq_serve (n : Nat) (s : St) (t : Nat) (h : s.pc t = .idle) :
    ∃ s', run n s [.inv t, .step t, .step t] = some s' ∧ s'.pc t = .done (serve n s.cur).1 ∧ s'.cur = (serve n s.cur).2 := by
  refine ⟨⟨(serve n s.cur).2, upd (upd (upd s.pc t .called) t (.loaded s.cur)) t (.done (serve n s.cur).1)⟩, ?_,
    upd_self, rfl⟩
  unfold serve
  split
  · simp only [run, step, h, upd_self, if_pos ‹_›]
  · split
    · simp only [run, step, h, upd_self, if_neg ‹¬ _›, if_pos ‹_›]
    · simp only [run, step, h, upd_self, if_neg ‹¬ Gen.Cursor.singlePath n = true›, if_neg ‹¬ Gen.Cursor.exhausted s.cur n = true›]

/-- **every call receives an element of the sequence**: in every history of every number of threads, every returned
    index is `< n` (no out-of-range access, hence no panic) -/
theorem conc_in_range (n : Nat) (hn : 1 ≤ n) (w : List Ev) (s : St) (h : run n init w = some s) (t v : Nat)
    (hv : Ev.resp t v ∈ w) : v < n := by
  obtain ⟨p, r, rfl⟩ := List.append_of_mem hv
  obtain ⟨_, hlt, -⟩ := after_resp hn h
  exact hlt

/-- **positions never go backwards, in real time**: if a call returned index `va` and another call (any thread) is
    *invoked* afterwards, that call returns `vb ≥ va`; more precisely it returns at least the next position, clamped
    to the last: `vb ≥ min (va+1) (n-1)`. -/
theorem conc_rt_monotone (n : Nat) (hn : 1 ≤ n) (p q r : List Ev) (a va b vb : Nat) (s : St)
    (h : run n init (p ++ Ev.resp a va :: (q ++ Ev.inv b :: r)) = some s) (hb : Ev.resp b vb ∈ r) :
    va ≤ vb ∧ min (va + 1) (n - 1) ≤ vb := by
  obtain ⟨s2, hlt, hcur, -, h3⟩ := after_resp hn h
  obtain ⟨s3, hmono, h4⟩ :=
    run_preserves (P := fun x => s2.cur ≤ x.cur) q (fun _ hP hs => Nat.le_trans hP (cur_mono_step hs)) (Nat.le_refl _) h3
  obtain ⟨s4, h5, h6⟩ := run_cons h4
  obtain ⟨_, _, _, _, hm, rfl⟩ := step_move h5
  cases hm
  have hvb := resp_above h6 hb (fun h2 => Nat.le_trans (hcur h2) hmono) (.inr upd_self)
  exact ⟨le_of_min_succ hlt hvb, hvb⟩

/-- the hypotheses are met by real interleavings: thread 0 returns position 0, then thread 1 is invoked while thread 2 is still
    in flight -/
example : (run 3 init ([.inv 2, .inv 0, .step 0, .step 0] ++ Ev.resp 0 0 :: ([.step 2] ++ Ev.inv 1 :: [.step 1, .step 1, .resp 1 1, .step 2,
    .resp 2 1]))).isSome = true := by decide +kernel

/-- **sticky last**, the version that is true of the code: once a call has *returned* the last element, every call
    that *starts* afterwards returns the last element -/
theorem conc_sticky (n : Nat) (hn : 1 ≤ n) (p q r : List Ev) (a b vb : Nat) (s : St)
    (h : run n init (p ++ Ev.resp a (n - 1) :: (q ++ Ev.inv b :: r)) = some s) (hb : Ev.resp b vb ∈ r) : vb = n - 1 := by
  have h2 : vb < n := conc_in_range n hn _ s h b vb
    (List.mem_append_right p (List.mem_cons_of_mem _ (List.mem_append_right q (List.mem_cons_of_mem _ hb))))
  exact Nat.le_antisymm (Nat.le_sub_one_of_lt h2) (conc_rt_monotone n hn p q r a (n - 1) b vb s h hb).1

example : (run 2 init ([.inv 0, .step 0, .step 0, .resp 0 0, .inv 0, .step 0, .step 0] ++ Ev.resp 0 (2 - 1) :: ([.inv 5, .step 5] ++ Ev.inv 1 ::
    [.step 1, .step 1, .resp 1 1, .step 5, .resp 5 1]))).isSome = true := by decide +kernel

/-- **per caller, positions never go backwards** (and move on until the last element): consecutive results of one
    thread satisfy `v₂ ≥ min (v₁+1) (n-1) ≥ v₁` -/
theorem conc_thread_monotone (n : Nat) (hn : 1 ≤ n) (p r : List Ev) (t v1 v2 : Nat) (s : St)
    (h : run n init (p ++ Ev.resp t v1 :: r) = some s) (h2 : Ev.resp t v2 ∈ r) : v1 ≤ v2 ∧ min (v1 + 1) (n - 1) ≤ v2 := by
  obtain ⟨s2, hlt, hcur, hidle, h3⟩ := after_resp hn h
  have hv2 := resp_above h3 h2 hcur (.inl hidle)
  exact ⟨le_of_min_succ hlt hv2, hv2⟩

/-- **the cursor cannot run away**: with at most `T` threads (ids `< T`) it never exceeds `n - 1 + T`, in every history -/
theorem conc_cur_bounded (n T : Nat) (hn : 1 ≤ n) (w : List Ev) (s : St) (hT : ∀ e ∈ w, e.tid < T)
    (h : run n init w = some s) : s.cur ≤ n - 1 + T := by
  have hB0 : Bound n T init := by unfold Bound; rw [pending_init]; exact Nat.zero_le _
  obtain ⟨_, hB, hs⟩ := run_preserves (w2 := []) w (fun he hB hs => bound_step hB (hT _ he) hs) hB0 ((List.append_nil w).symm ▸ h)
  cases hs
  exact Nat.le_trans (Nat.le_add_right _ _) hB

/-- hence the `int32` counter `BaseMatcher.curNum` (matcher.go) cannot wrap while results + callers stay below 2³¹ -/
theorem conc_no_int32_wrap (n T : Nat) (hn : 1 ≤ n) (hsz : n + T ≤ 2 ^ 31) (w : List Ev) (s : St) (hT : ∀ e ∈ w, e.tid < T)
    (h : run n init w = some s) : s.cur < 2 ^ 31 := by
  exact Nat.lt_of_lt_of_le (Nat.lt_of_le_of_lt (conc_cur_bounded n T hn w s hT h)
    (Nat.add_lt_add_right (Nat.sub_lt hn Nat.one_pos) T)) hsz

/-- the count in the bound is attained: once a first call (thread 9) has moved the cursor to `n - 1 = 1`, three threads that all
    load 1 drive it to `4 = n - 1 + 3`.  (`conc_cur_bounded` bounds thread ids, so for this very history it needs `T ≥ 10`.) -/
example : (run 2 init [.inv 9, .step 9, .step 9, .resp 9 0, .inv 0, .inv 1, .inv 2, .step 0, .step 1, .step 2,
    .step 0, .step 1, .step 2]).map (·.cur) = some 4 := by decide +kernel

/-- the literal reading "after the last element has been returned nothing else is ever returned" is **false** for
    overlapping calls: thread 0 loads position 0, threads 1 and 2 then consume positions 0 and 1 (thread 2 returns the
    last element), and only then thread 0 finishes and returns position 0. -/
theorem literal_sticky_fails : ∃ (w : List Ev) (s : St) (p q : List Ev), run 2 init w = some s ∧
    w = p ++ Ev.resp 2 1 :: (q ++ [Ev.resp 0 0]) :=
  ⟨[.inv 0, .step 0, .inv 1, .step 1, .step 1, .resp 1 0, .inv 2, .step 2, .step 2, .resp 2 1, .step 0, .resp 0 0], _,
   [.inv 0, .step 0, .inv 1, .step 1, .step 1, .resp 1 0, .inv 2, .step 2, .step 2], [.step 0], rfl, rfl⟩

/-- the literal, return-order reading of "once the last element has been returned it is the only one returned":
    in every history, every response that comes after a response carrying the last element carries the last element. -/
def LiteralSticky (n : Nat) : Prop :=
  ∀ (w : List Ev) (s : St) (p q : List Ev) (a t v : Nat), run n init w = some s → w = p ++ Ev.resp a (n - 1) :: q →
    Ev.resp t v ∈ q → v = n - 1

/-- it is false (already for two results and three callers) -/
theorem literal_sticky_false : ¬ LiteralSticky 2 := by
  intro h
  obtain ⟨w, s, p, q, hr, hw⟩ := literal_sticky_fails
  exact absurd (h w s p (q ++ [Ev.resp 0 0]) 2 0 0 hr hw (List.mem_append_right q List.mem_cons_self)) (by decide)

/-- every internal step pair of a call is adjacent: each `Result()` executes atomically -/
def stepsAtomic : List Ev → Bool
  | .step t :: .step u :: rest => t == u && stepsAtomic rest
  | .step _ :: _ => false
  | _ :: rest => stepsAtomic rest
  | [] => true

/-- …and the literal (return-order) reading does not fail because `Result()` uses two atomics: a history of the model (`n = 2`)
    in which every call executes `Result()` atomically (`stepsAtomic`) fails it too — a caller that obtained position 0 can be descheduled before it
    returns, and its return then follows the return of the last element.  (Outside the statement: no code orders the instants at
    which callers observe their results, so "once the last element has been returned it is the only one returned" can only be a statement
    about calls that start afterwards, `conc_sticky`.) -/
theorem literal_sticky_fails_even_if_atomic : ∃ (w : List Ev) (s : St) (p : List Ev), run 2 init w = some s ∧
    stepsAtomic w = true ∧ w = p ++ [Ev.resp 2 1, Ev.resp 0 0] :=
  ⟨[.inv 0, .step 0, .step 0, .inv 2, .step 2, .step 2, .resp 2 1, .resp 0 0], _,
   [.inv 0, .step 0, .step 0, .inv 2, .step 2, .step 2], rfl, rfl, rfl⟩

/-! Trace validation: an observed history that the model admits has the concurrent clause. -/

/-- the property on an observed history (visible events `inv`/`resp` in stamp order) -/
def HistOK (n : Nat) (h : List Ev) : Prop :=
  (∀ t v, Ev.resp t v ∈ h → v < n) ∧
  (∀ l1 l2 l3 a va b vb, h = l1 ++ Ev.resp a va :: (l2 ++ Ev.inv b :: l3) → Ev.resp b vb ∈ l3 →
      va ≤ vb ∧ min (va + 1) (n - 1) ≤ vb ∧ (va = n - 1 → vb = n - 1)) ∧
  (∀ l1 l2 t v1 v2, h = l1 ++ Ev.resp t v1 :: l2 → Ev.resp t v2 ∈ l2 → v1 ≤ v2)

/-- **soundness of trace validation**: a history of the real implementation that the model admits (some insertion of
    internal steps makes it a run) satisfies the concurrent clause of the property -/
theorem admits_sound (n : Nat) (hn : 1 ≤ n) (w : List Ev) (h : admits n w = true) : HistOK n (obs w) := by
  unfold admits at h
  obtain ⟨s, hs⟩ := Option.isSome_iff_exists.1 h
  have mem_obs : ∀ {u : List Ev} {e : Ev}, e ∈ obs u → e ∈ u := fun hm => (List.mem_filter.1 hm).1
  refine ⟨fun t v hv => conc_in_range n hn w s hs t v (mem_obs hv), ?_, ?_⟩
  · intro l1 l2 l3 a va b vb he hb
    obtain ⟨w1, w2, rfl, hw2⟩ := obs_split he
    obtain ⟨w3, w4, rfl, rfl⟩ := obs_split hw2
    have hb' : Ev.resp b vb ∈ w4 := mem_obs hb
    have h1 := conc_rt_monotone n hn w1 w3 w4 a va b vb s hs hb'
    refine ⟨h1.1, h1.2, fun e => ?_⟩
    subst e
    exact conc_sticky n hn w1 w3 w4 a b vb s hs hb'
  · intro l1 l2 t v1 v2 he h2
    obtain ⟨w1, w2, rfl, rfl⟩ := obs_split he
    exact (conc_thread_monotone n hn w1 w2 t v1 v2 s hs (mem_obs h2)).1

/-- a racing history (two threads load the same position) is admitted, so the hypothesis of `admits_sound` is met by
    histories in which the race window was hit -/
example : admits 3 [.inv 0, .inv 1, .step 0, .step 1, .step 0, .step 1, .resp 0 0, .resp 1 0, .inv 0, .step 0, .step 0,
    .resp 0 2] = true := by decide +kernel

/-- and a history whose first call answers position 1 instead of 0 is rejected -/
example : admits 3 [.inv 0, .step 0, .step 0, .resp 0 1] = false := by decide +kernel

end C05
