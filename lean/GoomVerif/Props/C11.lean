import GoomVerif.Lemmas.C11L
/-!
# C11 — independent builders and concurrent callers are race-free and isolated

All theorems quantify over an arbitrary schedule `σ : List Tid` (one entry = one scheduler slot; a slot given to a
thread that waits for a held lock is a stutter step), over arbitrary thread programs `prog` (lists of the critical
sections the Go code has: `replaceFunc`, `Guard.Apply`, `Guard.UnpatchWithLock`, and lock-free `call`s) and over an
arbitrary layout (which pages a write touches, which placeholder belongs to a target, what the original computes).
`Conc.step` transcribes internal/patch/{patch.go,guard.go,monkey.go} and internal/bytecode/memory/{mwrite_amd64.go,
mwrite_unix.go}; the correspondence run ties it to the source.
-/
namespace C11
open Conc

/-- the state the probe starts from: nothing patched, locks free, all pages r-x -/
abbrev start := init (fun _ => Content.pristine)

/-! The theorems below start from ANY quiet state `s0` (`Conc.Quiet`: no lock held, no thread inside a section, pages
    executable) — in particular from a state in which a steady builder has already mocked the functions the callers
    call.  `Disjoint prog` then speaks about the threads that run concurrently (builders + callers); the steady mocks
    live in `s0`, not in `prog`, so callers of MOCKED functions are inside the universe of every theorem.
    `quiet_start` instantiates them for the empty start state. -/

theorem quiet_start : Quiet start := quiet_init _

/-- **mutual exclusion of `patchesLock`** (the mutex declared beside `patches` in internal/patch/patch.go): in every
    reachable state at most one thread is inside a `replaceFunc`/`Apply`/`UnpatchWithLock` section.  (That this thread is
    the lock holder is `Conc.LInv.mp`; `mutex_memoryLock` states it for the thread inside `WriteTo`.) -/
theorem mutex_patchesLock (L prog) (s0 : St) (hq : Quiet s0) (σ : List Tid) (t u : Tid)
    (ht : ((run L prog σ s0).th t).cur.isSome = true) (hu : ((run L prog σ s0).th u).cur.isSome = true) : t = u := by
  have I := LInv_run L prog σ s0 (LInv_of_quiet prog hq)
  exact Option.some.inj ((I.mp t ht).symm.trans (I.mp u hu))

/-- **mutual exclusion of `memoryAccessLock`** (memory.go:12): at most one thread is inside the three-phase
    `WriteTo` script, and that thread also holds `patchesLock` — so thread A's final `mprotect(RX)` can never
    interleave with thread B's `copy`, even when both targets lie on one page. -/
theorem mutex_memoryLock (L prog) (s0 : St) (hq : Quiet s0) (σ : List Tid) (t u : Tid)
    (ht : ((run L prog σ s0).th t).w.isSome = true) (hu : ((run L prog σ s0).th u).w.isSome = true) :
    t = u ∧ (run L prog σ s0).lockP = some t := by
  have I := LInv_run L prog σ s0 (LInv_of_quiet prog hq)
  exact ⟨Option.some.inj ((I.mm t ht).1.symm.trans (I.mm u hu).1), I.mp t (I.mm t ht).2⟩

/-- **lockset**: every access of the model to the patch table / guards happens while the accessor holds
    `patchesLock`; every write of text bytes or page protections happens while it additionally holds
    `memoryAccessLock`; every read of text bytes happens while no other thread holds `memoryAccessLock`.
    (A statement about the model's enumeration of shared state; fields the model does not list are covered by the
    race detector only.) -/
theorem lockset (L prog) (s0 : St) (hq : Quiet s0) (σ : List Tid) :
    ∀ a ∈ (run L prog σ s0).acc, a.holdsP = true ∧ (a.v ≠ Var.patches → a.holdsM = true) :=
  (LInv_run L prog σ s0 (LInv_of_quiet prog hq)).accOk

/-- **x_always**: in every intermediate state of every interleaving every page is executable — WriteTo goes
    r-x → rwx → r-x and never through a state without x (mwrite_amd64.go:24,32).  The protections are DATA of the
    model's script (`Conc.wscript`: `permRWX`, `permRX`; a script containing a protection without x is expressible and
    would falsify this theorem — `Conc.wscript_x` is the lemma about the script); the source tie is the skeleton token
    `mprotect-RWX`/`mprotect-RX` (emitted only when the Go call text names PROT_EXEC) and the strace lane. -/
theorem x_always (L prog) (s0 : St) (hq : Quiet s0) (σ : List Tid) (pg : Nat) : ((run L prog σ s0).perm pg).x = true :=
  XInv_run L prog σ s0 hq.x pg

/-- **steady_calls**: start from ANY state `s0` with executable pages and an empty call log (e.g. after a steady
    builder has mocked `f`).  Every call of a location `f` that no thread of the schedule writes (nor its placeholder) returns, in every
    interleaving, exactly what the code at `f` computes in `s0` — i.e. a steadily mocked function yields the mocked
    result, including a callback that calls the origin placeholder, while other goroutines patch and unpatch
    neighbouring functions on the same pages. -/
theorem steady_calls (L prog) (σ : List Tid) (s0 : St) (hx : ∀ pg, (s0.perm pg).x = true) (hc : s0.calls = [])
    (t ip : Nat) (res : Option Nat) (h : (t, ip, res) ∈ (run L prog σ s0).calls) :
    ∃ f a, (prog t)[ip]? = some (Sec.call f a) ∧
      ((∀ u, ¬ Writes L prog u f) → (∀ u, ¬ Writes L prog u (L.plh f)) → res = callAt L s0 f a) :=
  (CInv_run (L := L) (prog := prog) σ s0 hx hc).calls _ h

/-- what "the mocked result" is: `Return(v)` → `v`; callback calling the placeholder → original + k -/
theorem callAt_ret (L : Layout) (s : St) (f a v : Nat) (hx : ∀ pg, (s.perm pg).x = true) (h : s.text f = .jump (.ret v)) :
    callAt L s f a = some v := by
  simp [callAt, allX_of_XInv s hx, h]

theorem callAt_cbo (L : Layout) (s : St) (f a k : Nat) (hx : ∀ pg, (s.perm pg).x = true) (h : s.text f = .jump (.cbo k))
    (ho : s.text (L.plh f) = .reloc f) : callAt L s f a = some (L.orig f a + k) := by
  simp [callAt, allX_of_XInv s hx, h, ho]

/-- **non-interference**: slots of other threads never change the patch-table entry or the text of a location that
    thread `t` mentions (targets it mocks, resets or calls, and their placeholders), provided nobody else writes what
    `t` mentions (`Disjoint`, the hypothesis of the property). "Each apply or reset affects its own targets only." -/
theorem others_frame (L prog) (hd : Disjoint L prog) (t : Tid) (σ : List Tid) (hσ : t ∉ σ) (s : St) (f : Loc)
    (hf : Mentions L prog t f) :
    (run L prog σ s).text f = s.text f ∧ (run L prog σ s).patches f = s.patches f :=
  frame_run σ (fun u hu hw => hd t u f (fun e => hσ (e ▸ hu)) hw hf) s

/-- **nobody's target never changes**: a location that no thread of the system writes (a function that is not a target of
    any builder — e.g. a callee of a mocked function literal, or an unmocked neighbour on the same page) keeps its text
    and has no patch-table entry created, from any state, in every interleaving.  "Each apply or reset affects its own
    targets only", for the locations outside ALL target sets.  (That a Go target value denotes the location the probe
    says it does — function literals, generic instantiations of distinct GC shapes — is checked by the rounds: their
    callee `c11Ident` is called by other goroutines and must never change.) -/
theorem untargeted_unchanged (L prog) (σ : List Tid) (s : St) (f : Loc) (hf : ∀ u, ¬ Writes L prog u f) :
    (run L prog σ s).text f = s.text f ∧ (run L prog σ s).patches f = s.patches f :=
  frame_run σ (fun u _ => hf u) s

/-- **isolation**: for every schedule and every thread `t`, the patch-table entries and the text of all locations
    `t` mentions, and `t`'s own control state, are exactly those of a run in which ONLY `t` was scheduled (`solo`), for
    some number `n` of slots — i.e. the projection of any interleaved run on a thread's targets equals its sequential
    run; the other builders (and callers) are invisible to it.  The last conjunct: the RESULTS of all calls thread `t`
    made so far (the stream `B1=[…]` the differential run compares) are exactly those of its solo run. -/
theorem isolation (L prog) (hd : Disjoint L prog) (s0 : St) (hq : Quiet s0) (t : Tid) (σ : List Tid) :
    ∃ n, (run L prog σ s0).th t = (solo L prog t n s0).th t ∧
      (∀ f, Mentions L prog t f →
        (run L prog σ s0).text f = (solo L prog t n s0).text f ∧
        (run L prog σ s0).patches f = (solo L prog t n s0).patches f) ∧
      callsOf t (run L prog σ s0) = callsOf t (solo L prog t n s0) := by
  obtain ⟨n, h, hc⟩ := solo_sim_calls L prog hd t σ s0 s0 (Agree_of_quiet L prog t hq) rfl
  exact ⟨n, h.th, h.loc, hc⟩

/-- **quiescence transfers**: if every thread's own sequential run, once finished, leaves the locations it writes
    pristine (a schedule-free fact about each builder alone: it resets what it mocked — property C02; the driver
    evaluates it for every generated round; `Target` separates mocked functions from origin placeholders, whose bodies
    goom never restores), then in EVERY interleaving in which all threads have finished every
    written location is pristine and the state is quiet again (both locks free, nobody inside a section). -/
theorem quiescent_restored (L prog) (hd : Disjoint L prog) (s0 : St) (hq0 : Quiet s0) (Target : Loc → Prop)
    (hseq : ∀ t n, done prog (solo L prog t n s0) t → ∀ f, Target f → Writes L prog t f → (solo L prog t n s0).text f = .pristine)
    (σ : List Tid) (hq : ∀ t, done prog (run L prog σ s0) t) :
    (∀ t f, Target f → Writes L prog t f → (run L prog σ s0).text f = .pristine) ∧ Quiet (run L prog σ s0) := by
  refine ⟨?_, quiet_run σ hq0 hq⟩
  intro t f htg hw
  obtain ⟨n, hth, hloc, _⟩ := isolation L prog hd s0 hq0 t σ
  rw [(hloc f hw.mentions).1]
  refine hseq t n ?_ f htg hw
  unfold done
  rw [← hth]; exact hq t

/-- **quiescence, unconditional for the generator's program class**: every thread is either a builder running
    `builderProg tg ops` — ANY sequence of builder operations (`mock` with Return / table / callback / callback calling
    the origin placeholder, re-stub of an already mocked target, `chk`, intermediate `reset`s, double resets) followed by
    `reset` and a final check (`builderProg_is_generated`: exactly what `ops ++ [reset, chk]` compiles to) — or a caller (only
    `call` sections); the start is ANY quiet state `s0` in which the sequential fact `JAt` holds (e.g. `start`, or the
    state after a steady builder's mocks: `JAt_after_solo`) and no thread has begun.  Then in EVERY interleaving in which
    all threads have finished, every location they wrote that is not an origin placeholder is pristine and the state is
    quiet again (both locks free). -/
theorem quiescent_restored_builders (L prog) (hd : Disjoint L prog) (s0 : St) (hq0 : Quiet s0)
    (hj : JAt (fun f => ∀ g, L.plh g ≠ f) s0) (hip : ∀ t, (s0.th t).ip = 0)
    (hcls : ∀ t, (∃ tg ops, prog t = builderProg tg ops) ∨ (∀ sec ∈ prog t, ∃ f a, sec = Sec.call f a))
    (σ : List Tid) (hq : ∀ t, done prog (run L prog σ s0) t) :
    (∀ t f, (∀ g, L.plh g ≠ f) → Writes L prog t f → (run L prog σ s0).text f = .pristine) ∧ Quiet (run L prog σ s0) := by
  refine quiescent_restored L prog hd s0 hq0 (fun f => ∀ g, L.plh g ≠ f) ?_ σ hq
  intro t n hdone f hT hw
  rcases hcls t with ⟨tg, ops, hp⟩ | hc
  · exact seq_restored_from (Target := fun f => ∀ g, L.plh g ≠ f) (fun f g h => h g) (builder_tail hp) (fun f => builder_cover hp) hq0 hj
      (by rw [hip t]; exact Nat.zero_le _) n hdone f hT hw
  · obtain ⟨sec, hs, hf⟩ := hw
    obtain ⟨g, a, rfl⟩ := hc sec hs
    simp [writesOf] at hf

/-- **phase 1 → the sequential fact**: after ANY builder program has run alone from a quiet state in which `JAt`
    holds (e.g. the steady builder's mocks from `start`), `JAt` holds again for every location that is not an origin
    placeholder: saved origin bytes are pristine, and a registered-but-unapplied patch sits on pristine text. -/
theorem JAt_after_solo (L : Layout) (prog : Tid → List Sec) (t : Tid) (s0 : St) (hq : Quiet s0)
    (hj : JAt (fun f => ∀ g, L.plh g ≠ f) s0) (hip : (s0.th t).ip ≤ (prog t).length) (n : Nat) :
    JAt (fun f => ∀ g, L.plh g ≠ f) (solo L prog t n s0) := by
  refine (SInv_solo (T := (prog t).length) (fun f g h => h g) ?_ hq hj hip n).J
  intro i sec hi h
  rw [List.getElem?_eq_none hi] at h; cases h

/-- **the steady builder's targets are restored too** (three phases, the universe of the differential rounds):
    `s0` is any quiet state with the sequential fact (phase 1: the steady builder has mocked `fs`); phase 2 is ANY
    interleaving `σ` of a `Disjoint` system `prog2` of builders and callers in which nobody writes `fs` (callers may call
    them), run until all its threads are done; phase 3 is the steady builder `S` resetting: `fs.map unpatch` run alone.
    Then every function in `fs` is pristine. -/
theorem steady_targets_restored (L : Layout) (prog2 prog3 : Tid → List Sec) (s0 : St) (hq0 : Quiet s0)
    (hj : JAt (fun f => ∀ g, L.plh g ≠ f) s0) (σ : List Tid) (hq : ∀ t, done prog2 (run L prog2 σ s0) t)
    (S : Tid) (fs : List Loc) (hS : prog3 S = fs.map Sec.unpatch) (hnw : ∀ f ∈ fs, ∀ u, ¬ Writes L prog2 u f)
    (hip : ((run L prog2 σ s0).th S).ip = 0) (n : Nat)
    (hdone : done prog3 (solo L prog3 S n (run L prog2 σ s0)) S) :
    ∀ f ∈ fs, (∀ g, L.plh g ≠ f) → (solo L prog3 S n (run L prog2 σ s0)).text f = .pristine := by
  intro f hf hT
  have j1 : JAt (fun f => f ∈ fs ∧ ∀ g, L.plh g ≠ f) (run L prog2 σ s0) := by
    intro g ⟨hg, hgT⟩
    have fr := frame_run σ (fun u _ => hnw g hg u) s0
    rw [fr.1, fr.2]; exact hj g hgT
  refine seq_restored_from (L := L) (prog := prog3) (t := S) (Target := fun f => f ∈ fs ∧ ∀ g, L.plh g ≠ f) (T := 0)
    (fun f g h => h.2 g) ?_ ?_ (quiet_run σ hq0 hq) j1 (by rw [hip]; exact Nat.le_refl 0) n hdone f ⟨hf, hT⟩ ?_
  · intro i sec _ h
    rw [hS] at h
    obtain ⟨g, _, rfl⟩ := List.mem_map.1 (List.mem_of_getElem? h)
    exact Or.inl ⟨g, rfl⟩
  · intro g ⟨hg, _⟩ _
    obtain ⟨j, hj', hje⟩ := List.getElem_of_mem hg
    exact ⟨j, Nat.zero_le _, by rw [hS]; simp [hj', hje]⟩
  · exact ⟨Sec.unpatch f, by rw [hS]; exact List.mem_map.2 ⟨f, hf, rfl⟩, by simp [writesOf]⟩

/-- the class is what the generator emits: a program ending in `reset ; chk` -/
theorem builderProg_is_generated (tg : List Loc) (ops : List BOp) :
    compileOps tg (ops ++ [BOp.reset, BOp.chk]) [] = builderProg tg ops := by
  simp [compileOps_append, builderProg, compileOps]

/-! ### what the single `copy` step abstracts -/

/-- byte view of a `WriteTo` that has stored its first `k` bytes -/
def mixed (old new : List (BitVec 8)) (k : Nat) : List (BitVec 8) := new.take k ++ old.drop k

/-- The model's `WStep.copy` replaces the content of a location in ONE step, i.e. it assumes that nobody can observe a
    partially written entry: this is the statement it would need at byte level, -/
def CopyIsAtomic (old new : List (BitVec 8)) : Prop := ∀ k, mixed old new k = old ∨ mixed old new k = new

/-- and it is FALSE for the bytes goom writes (a Go prologue overwritten by `NOP; MOVABS RDX,imm64; JMP [RDX]`): after
    one byte the entry is neither the original nor the jump.  So the absence of torn instruction fetch is NOT a theorem
    here. -/
theorem copy_is_not_atomic_at_byte_level :
    ¬ CopyIsAtomic [0x49, 0x3b, 0x66, 0x10, 0x76, 0x2a, 0x55, 0x48, 0x89, 0xe5, 0x48, 0x83, 0xec]
                   [0x90, 0x48, 0xba, 0x40, 0x1f, 0x4a, 0x00, 0x00, 0x00, 0x00, 0x00, 0xff, 0x22] := by
  intro h
  have := h 1
  revert this
  decide

/-- What the model does guarantee about those intermediate byte states: whenever ANY thread is anywhere inside the
    `WriteTo` script of a location (between taking and releasing `memoryAccessLock`, hence also between the first and the
    last byte store), no thread's current `call` reads that location — neither as the called function nor as its
    origin placeholder — provided targets are disjoint.  The threads of the model therefore never execute a torn entry;
    what remains outside the model (and is only stress-tested) is hardware-level fetch: speculative/prefetched
    instruction bytes of a neighbouring function on the same cache line, and cross-modifying-code visibility rules. -/
theorem write_excludes_calls (L prog) (hd : Disjoint L prog) (s0 : St) (hq : Quiet s0) (σ : List Tid) (u : Tid)
    (hu : ((run L prog σ s0).th u).w.isSome = true) :
    ∃ sec k wk, (prog u)[((run L prog σ s0).th u).ip]? = some sec ∧ ((run L prog σ s0).th u).cur = some k ∧
      (bodyOf sec)[k]? = some (MI.write wk) ∧
      ∀ t f a, (prog t)[((run L prog σ s0).th t).ip]? = some (Sec.call f a) → f ≠ wloc L wk ∧ L.plh f ≠ wloc L wk := by
  have I := LInv_run L prog σ s0 (LInv_of_quiet prog hq)
  obtain ⟨sec, k, wk, h1, h2, h3⟩ := I.wpos u hu
  refine ⟨sec, k, wk, h1, h2, h3, ?_⟩
  intro t f a ht
  by_cases e : t = u
  · subst e; rw [h1] at ht; injection ht with ht; subst ht; simp [bodyOf] at h3
  · have hw : Writes L prog u (wloc L wk) := AtMI.writes L ⟨h1, h2, h3⟩
    have hm := hd t u (wloc L wk) e hw
    exact ⟨fun h => hm (mentions_of_sec ht _ (by simp [mentionsOf, h])),
      fun h => hm (mentions_of_sec ht _ (by simp [mentionsOf, h]))⟩

/-! ### the hypotheses are satisfiable by a non-trivial system -/

def exLayout : Layout := { plh := fun f => f + 1000, pages := fun l => [l / 4, l / 4 + 1], orig := fun f a => a * 7 + f }
/-- two builders on targets 1 and 2 (same page), one caller of the steady target 3 -/
def exProg : Tid → List Sec
  | 0 => [.replace 1 (.cbo 5) true, .apply 1, .call 1 3, .unpatch 1]
  | 1 => [.replace 2 (.ret 9) false, .apply 2, .unpatch 2]
  | 2 => [.call 3 4, .call 3 4]
  | _ => []

private theorem exProg_writes {u f : Nat} (h : Writes exLayout exProg u f) : (u = 0 ∧ (f = 1 ∨ f = 1001)) ∨ (u = 1 ∧ f = 2) := by
  obtain ⟨sec, hs, hw⟩ := h
  match u with
  | 0 =>
    simp only [exProg, List.mem_cons, List.not_mem_nil, or_false] at hs
    rcases hs with rfl | rfl | rfl | rfl
    all_goals simp [writesOf, exLayout] at hw
    all_goals simp [hw]
  | 1 =>
    simp only [exProg, List.mem_cons, List.not_mem_nil, or_false] at hs
    rcases hs with rfl | rfl | rfl
    all_goals simp [writesOf] at hw
    all_goals simp [hw]
  | 2 =>
    simp only [exProg, List.mem_cons, List.not_mem_nil, or_false] at hs
    rcases hs with rfl | rfl <;> cases hw
  | u + 3 => cases hs

private theorem exProg_mentions {t f : Nat} (h : Mentions exLayout exProg t f) :
    (t = 0 ∧ (f = 1 ∨ f = 1001)) ∨ (t = 1 ∧ (f = 2 ∨ f = 1002)) ∨ (t = 2 ∧ (f = 3 ∨ f = 1003)) := by
  obtain ⟨sec, hs, hm⟩ := h
  match t with
  | 0 =>
    simp only [exProg, List.mem_cons, List.not_mem_nil, or_false] at hs
    rcases hs with rfl | rfl | rfl | rfl
    all_goals simp [mentionsOf, exLayout] at hm
    all_goals simp [hm]
  | 1 =>
    simp only [exProg, List.mem_cons, List.not_mem_nil, or_false] at hs
    rcases hs with rfl | rfl | rfl
    all_goals simp [mentionsOf, exLayout] at hm
    all_goals simp [hm]
  | 2 =>
    simp only [exProg, List.mem_cons, List.not_mem_nil, or_false] at hs
    rcases hs with rfl | rfl
    all_goals simp [mentionsOf, exLayout] at hm
    all_goals simp [hm]
  | t + 3 => cases hs

example : Disjoint exLayout exProg := by
  intro t u f htu hw hm
  rcases exProg_writes hw with ⟨rfl, hf⟩ | ⟨rfl, rfl⟩ <;> rcases exProg_mentions hm with ⟨rfl, h⟩ | ⟨rfl, h⟩ | ⟨rfl, h⟩
  all_goals first | exact htu rfl | (rcases hf with rfl | rfl <;> simp at h) | simp at h

private theorem exProg_steady3 : (∀ u, ¬ Writes exLayout exProg u 3) ∧ (∀ u, ¬ Writes exLayout exProg u (exLayout.plh 3)) :=
  ⟨fun u h => by simpa using exProg_writes h, fun u h => by simpa [exLayout] using exProg_writes h⟩

/-- the steady hypotheses of `steady_calls` hold for target 3 of the example system: nobody writes it or its placeholder -/
example : (∀ u, ¬ Writes exLayout exProg u 3) ∧ (∀ u, ¬ Writes exLayout exProg u (exLayout.plh 3)) := exProg_steady3

/-- a quiet state in which a steady builder HAS mocked target 3 with `Return(9)`: the universe of the theorems above
    contains callers of mocked functions -/
def exMocked : St :=
  { start with patches := upd start.patches 3 (some { repl := .ret 9, originBytes := .pristine, applied := true }),
               text := upd start.text 3 (.jump (.ret 9)) }

example : Quiet exMocked ∧ JAt (fun f => ∀ g, exLayout.plh g ≠ f) exMocked := by
  refine ⟨by constructor <;> simp [exMocked, init, XInv, AccOk], ?_⟩
  intro f _
  by_cases h : f = 3
  · subst h; simp [exMocked, upd]
  · simp [exMocked, upd, h, init]

/-- in EVERY interleaving of the example builders and the caller, each call of the steadily mocked target 3 returns the
    mocked 9 (not the original 4*7+3) -/
example (σ : List Tid) (t ip : Nat) (res : Option Nat) (h : (t, ip, res) ∈ (run exLayout exProg σ exMocked).calls)
    (h3 : ∃ a, (exProg t)[ip]? = some (Sec.call 3 a)) : res = some 9 := by
  obtain ⟨f, a, hf, hres⟩ := steady_calls exLayout exProg σ exMocked (fun _ => rfl) rfl t ip res h
  obtain ⟨a', ha'⟩ := h3
  rw [ha'] at hf; injection hf with hf; injection hf with hf1 hf2; subst hf1
  rw [hres exProg_steady3.1 exProg_steady3.2]
  exact callAt_ret exLayout exMocked 3 a' 9 (fun _ => rfl) (by simp [exMocked, upd])

/-- `untargeted_unchanged` is not vacuous: in the example system location 3 (called by thread 2) is nobody's target,
    while its neighbours 1 and 2 on the same pages are patched and unpatched -/
example (σ : List Tid) : (run exLayout exProg σ exMocked).text 3 = .jump (.ret 9) := by
  rw [(untargeted_unchanged exLayout exProg σ exMocked 3 exProg_steady3.1).1]
  simp [exMocked, upd]

/-- a concrete interleaving with lock contention (thread 1 is scheduled while thread 0 holds the lock) -/
example : ((run exLayout exProg [0, 1, 0, 1, 0, 0, 0, 0, 1, 2, 0, 0, 0, 0, 0, 0, 0, 0, 0, 0, 0, 0, 0, 0, 0, 0, 0, 0, 0] start).calls.map (·.2.2))
    = [some (3 * 7 + 1 + 5), some (4 * 7 + 3)] := by decide

/-- the sequential hypothesis of `quiescent_restored` holds for the example builders (checked on their complete solo runs) -/
example : (solo exLayout exProg 0 40 start).text 1 = .pristine ∧ (solo exLayout exProg 1 40 start).text 2 = .pristine ∧
    done exProg (solo exLayout exProg 0 40 start) 0 ∧ (solo exLayout exProg 0 40 start).text 1001 = .reloc 1 := by
  refine ⟨by decide, by decide, ⟨by decide, by decide⟩, by decide⟩

/-- the class hypothesis of `quiescent_restored_builders` is met by generated programs (re-stub, origin, table, double reset) -/
example : builderProg [1, 2] [.mock 1 (.tab 5) false, .chk, .mock 2 (.cbo 7) true, .mock 1 (.cb 3) false, .reset, .reset, .mock 2 (.ret 4) false] =
    [.replace 1 (.tab 5) false, .apply 1, .call 1 3, .call 1 1, .call 2 3, .call 2 1, .replace 2 (.cbo 7) true, .apply 2, .replace 1 (.cb 3) false, .apply 1,
     .unpatch 1, .unpatch 2, .unpatch 1, .unpatch 2, .replace 2 (.ret 4) false, .apply 2, .unpatch 1, .unpatch 2, .call 1 3, .call 1 1, .call 2 3, .call 2 1] := by
  decide

end C11
