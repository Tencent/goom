import GoomVerif.Lemmas.C01L
/-!
# C01 — a mocked function runs the replacement (dispatch, closure context, retention across GC)

What is proved here is the *logic* of the property on the model `Model/C01Dispatch.lean`: which code a call
reaches and with which closure context, for every history of patch-table operations and collections.
What the model cannot exhibit — the register assignment of the Go ABI, `reflect.makeFuncStub`, stack
copying — is observed on the real code by the generated signature corpus (see checks/C01.py), not proved.
-/
namespace C01
open C01M C01L

def run (E : Env) (s : PState) (ops : List Op) : PState := ops.foldl (step E) s

/-- every `Guard.Apply`/`Restore` in the history targets the guard registered at that moment -/
def WellUsedHist (E : Env) : PState → List Op → Prop
  | _, [] => True
  | s, op :: rest => wellUsed s op ∧ WellUsedHist E (step E s op) rest

theorem inv_run (E : Env) (s : PState) (ops : List Op) (h : Inv E s) (hu : WellUsedHist E s ops) :
    Inv E (run E s ops) := by
  induction ops generalizing s with
  | nil => exact h
  | cons op rest ih => exact ih _ (inv_step E s op h hu.1) hu.2

/-- **Dispatch (machine level).**  With the 13 bytes of `jmpToFunctionValue(_, to)` at the entry of `f` and a
    live func value `o` at `to`, executing the entry yields RIP = first word of `o` (its code), RDX = `to`
    (its closure context), memory as it was: the register state of a Go closure call of `o`.  RIP, RDX and the
    read-only memory view are all the mini ISA represents; argument registers and stack are not in the statement. -/
theorem entry_dispatch (E : Env) (f : Nat) (to r0 : Addr) (heap : Addr → Option Obj) (o : Obj)
    (ho : heap to = some o) :
    X86.exec (jmp E f to) { rip := E.entry f, rdx := r0, mem64 := memOf heap } =
      some { rip := o.code, rdx := to, mem64 := memOf heap } := by
  have hm : memOf heap to = o.code := by simp only [memOf, ho]
  rw [← hm]
  exact C15.amd64_entry (E.entry f) to { rip := E.entry f, rdx := r0, mem64 := memOf heap }

private theorem call_of_pristine {E : Env} {s : PState} {f : Nat} (ht : s.text f = E.pristine f) :
    call E s f = .orig :=
  if_pos ht

/-- a call through patched entry bytes enters the func value whose address is embedded in them -/
theorem call_of_jump (E : Env) (s : PState) (f : Nat) (to : Addr) (o : Obj)
    (ht : s.text f = jmp E f to) (hne : s.text f ≠ E.pristine f) (ho : s.heap to = some o) :
    call E s f = .enter o to := by
  unfold call
  rw [if_neg hne, ht, entry_dispatch E f to _ s.heap o ho]
  simp only [ho, if_true]

/-- **RDX is the closure** (`bytecode.GetPtr` in patch.go `replaceFunc`): after a successful `replaceFunc` + `Guard.Apply`
    with replacement `reflect.Value v`, a call of `f` enters the object stored at the data word of `v`
    with RDX equal to that data word. -/
theorem rdx_is_closure (E : Env) (s : PState) (f : Nat) (v : RValue) (o : Obj) (g : Nat) (h : Inv E s)
    (hok : (replace E s f v o).2 = .ok g) :
    call E (applyG (replace E s f v o).1 g) f = .enter o v.ptr := by
  obtain ⟨h1, _, _, hs⟩ := replace_spec E s f v o h
  obtain ⟨hp, hheap, hnp⟩ := hs g hok
  -- the guard handed out is the one registered for `f`: applying it writes the jump to `v.ptr` at `f`
  obtain ⟨gd, hgd, hor, hjb⟩ := h1.reg f _ g hp rfl
  have ht : (applyG (replace E s f v o).1 g).text f = jmp E f (getPtr v) := by
    simp only [applyG, hgd, hor, upd_same, hjb]
  refine call_of_jump E _ f _ o ht ?_ (by simp only [applyG, hgd]; exact hheap)
  -- the call does not run the original body: bytes that passed the already-patched test are not a goom jump
  rw [ht]; exact jmp_ne_of_unpatched E f _ _ hnp

/-- a program of two functions with the usual Go prologue at each entry, for the concrete histories below -/
def exEnv : Env := { nf := 2, entry := fun f => BitVec.ofNat 64 (0x401000 + 64 * f),
                     pristine := fun _ => [0x49#8, 0x3b#8, 0x66#8, 0x10#8, 0x76#8, 0x30#8, 0x55#8, 0x48#8, 0x89#8, 0xe5#8, 0x48#8, 0x83#8, 0xec#8],
                     funcSize := fun _ => 64 }

/-- non-vacuity of `rdx_is_closure`: a func value for which `replaceFunc` succeeds on `exEnv` -/
example : (replace exEnv (init exEnv) 1 ⟨0, 0xc000012340#64, 19⟩ ⟨0x4a0000#64, .cb 7⟩).2 = .ok 0 := by decide +kernel

/-- **Dispatch (state level), never wild.**  In every state satisfying the invariant a call of `f` either runs
    the original body (entry pristine) or is a closure call of the *registered* replacement, which is live. -/
theorem dispatch (E : Env) (s : PState) (f : Nat) (h : Inv E s) :
    (call E s f = .orig ∧ s.text f = E.pristine f) ∨
    ∃ p o, s.patches f = some p ∧ s.heap p.repl = some o ∧ s.text f = jmp E f p.repl ∧
      call E s f = .enter o p.repl := by
  by_cases hp : s.text f = E.pristine f
  · exact .inl ⟨call_of_pristine hp, hp⟩
  · rcases h.txt f with ht | ⟨p, g, gd, hpf, _, _, _, ht⟩
    · exact absurd ht hp
    · obtain ⟨o, ho⟩ := h.live f p hpf
      exact .inr ⟨p, o, hpf, ho, ht, call_of_jump E s f p.repl o ht hp ho⟩

/-- **Retention / GC safety, all histories.**  Start from the unpatched program and run *any* sequence of
    `replaceFunc`, `Guard.Apply/Unpatch/Restore`, `unpatchValue`, `UnpatchAll` and worst-case collections with
    arbitrary external roots (Apply/Restore used on the registered guard, as mocker.go does).  Whenever the
    entry of `f` is not pristine it is exactly the jump to the replacement held by `patches[f]`, that func
    value is a GC root and is live, and the destination embedded in the code is that replacement. -/
theorem retained (E : Env) (ops : List Op) (hu : WellUsedHist E (init E) ops) (f : Nat)
    (hne : (run E (init E) ops).text f ≠ E.pristine f) :
    ∃ p o, (run E (init E) ops).patches f = some p ∧
      (run E (init E) ops).text f = jmp E f p.repl ∧
      isRoot E (run E (init E) ops) p.repl = true ∧
      (run E (init E) ops).heap p.repl = some o ∧
      (∀ to, (run E (init E) ops).text f = jmp E f to → to = p.repl) := by
  have h := inv_run E (init E) ops (inv_init E) hu
  rcases dispatch E _ f h with ⟨_, ht⟩ | ⟨p, o, hp, ho, ht, _⟩
  · exact absurd ht hne
  · exact ⟨p, o, hp, ht, h.isRoot hp, ho, fun to hto => jmp_inj E f _ _ (hto.symm.trans ht)⟩

/-- non-vacuity of `retained`: a well-used history after which the entry of function 1 is not pristine -/
example :
    WellUsedHist exEnv (init exEnv)
      [.replace 1 ⟨0, 0xc000012340#64, 19⟩ ⟨0x4a0000#64, .cb 7⟩, .apply 0, .gc (fun _ => false)] ∧
    (run exEnv (init exEnv)
      [.replace 1 ⟨0, 0xc000012340#64, 19⟩ ⟨0x4a0000#64, .cb 7⟩, .apply 0, .gc (fun _ => false)]).text 1 ≠ exEnv.pristine 1 := by
  refine ⟨⟨trivial, ⟨1, ⟨0xc000012340#64, some 0⟩, rfl, rfl⟩, trivial, trivial⟩, by decide +kernel⟩

/-- no history can make a call land on a collected or foreign object -/
theorem never_wild (E : Env) (ops : List Op) (hu : WellUsedHist E (init E) ops) (f : Nat) :
    call E (run E (init E) ops) f ≠ .wild := by
  have h := inv_run E (init E) ops (inv_init E) hu
  rcases dispatch E _ f h with ⟨hc, _⟩ | ⟨_, _, _, _, _, hc⟩
  · rw [hc]; nofun
  · rw [hc]; nofun

/-- the discipline in `retained` is necessary, and goom's unused `Guard.Restore` can break it:
    restoring a superseded guard re-installs a jump to a func value that `patches` no longer holds, and a
    collection then leaves the call wild.  (No caller of `Restore` exists, so this is not a finding.) -/
theorem stale_restore_is_unsafe :
    call exEnv (run exEnv (init exEnv)
      [.replace 1 ⟨0, 0xc000012340#64, 19⟩ ⟨0x4a0000#64, .cb 1⟩, .apply 0,
       .replace 1 ⟨0, 0xc000012380#64, 19⟩ ⟨0x4a0000#64, .cb 2⟩, .apply 1,
       .restore 0, .gc (fun _ => false)]) 1 = .wild := by decide +kernel

/-- operations that concern function `f` -/
def touches (s : PState) (f : Nat) : Op → Prop
  | .replace f' _ _ => f' = f
  | .apply g | .unpatch g | .restore g => ∃ gd, s.guards g = some gd ∧ gd.origin = f
  | .unpatchFn f' => f' = f
  | .unpatchAll => True
  | .gc _ => False

def Untouched (E : Env) (f : Nat) : PState → List Op → Prop
  | _, [] => True
  | s, op :: rest => ¬ touches s f op ∧ Untouched E f (step E s op) rest

/-- one step that does not concern `f` keeps its entry bytes, its registration and its live replacement -/
theorem step_frame (E : Env) (s : PState) (op : Op) (f : Nat) (p : Patch) (o : Obj) (h : Inv E s)
    (hnt : ¬ touches s f op) (hp : s.patches f = some p) (ho : s.heap p.repl = some o) :
    (step E s op).text f = s.text f ∧ (step E s op).patches f = some p ∧ (step E s op).heap p.repl = some o := by
  cases op with
  | replace f' v o' =>
    obtain ⟨_, hfr, hheap, _⟩ := replace_spec E s f' v o' h
    obtain ⟨ht, hpf⟩ := hfr f fun e => hnt e.symm
    exact ⟨ht, hpf.trans hp, hheap _ _ ho⟩
  | apply g =>
    simp only [step, applyG]
    split
    next gd hg => exact ⟨upd_other fun e => hnt ⟨gd, hg, e.symm⟩, hp, ho⟩
    · exact ⟨rfl, hp, ho⟩
  | unpatch g =>
    simp only [step, unpatchG]
    split
    next gd hg =>
      split
      · exact ⟨upd_other fun e => hnt ⟨gd, hg, e.symm⟩, hp, ho⟩
      · exact ⟨rfl, hp, ho⟩
    · exact ⟨rfl, hp, ho⟩
  | restore g =>
    simp only [step, restoreG]
    split
    next gd hg =>
      split
      · exact ⟨upd_other fun e => hnt ⟨gd, hg, e.symm⟩, hp, ho⟩
      · exact ⟨rfl, hp, ho⟩
    · exact ⟨rfl, hp, ho⟩
  | unpatchFn f' =>
    have hx : f ≠ f' := fun e => hnt e.symm
    simp only [step, unpatchFn_eq h]
    exact ⟨upd_other hx, (upd_other hx).trans hp, ho⟩
  | unpatchAll => exact absurd trivial hnt
  | gc keep => exact ⟨rfl, hp, (gc_heap_reg h keep hp).trans ho⟩

private theorem enter_stable {E : Env} {s s' : PState} {f : Nat} {o : Obj} {a : Addr} (h : Inv E s)
    (hc : call E s f = .enter o a)
    (hs' : ∀ p o, s.patches f = some p → s.heap p.repl = some o → s'.text f = s.text f ∧ s'.heap p.repl = some o) :
    call E s' f = .enter o a := by
  rcases dispatch E s f h with ⟨hor, _⟩ | ⟨p, o', hp, ho', htj, hc'⟩
  · exact nomatch hor.symm.trans hc
  · obtain ⟨ht, hl⟩ := hs' p o' hp ho'
    have hne : s.text f ≠ E.pristine f := fun e => nomatch (call_of_pristine e).symm.trans hc
    rw [← hc, hc']
    exact call_of_jump E s' f p.repl o' (ht.trans htj) (ht ▸ hne) hl

/-- **Keeps holding until reset.**  Once a call of `f` enters replacement `o` (closure at `a`), it keeps doing
    exactly that after any further history that does not operate on `f` — any number of collections with any
    root sets, and any patch/unpatch traffic on other functions. -/
theorem persists (E : Env) (s : PState) (f : Nat) (o : Obj) (a : Addr) (ops : List Op) (h : Inv E s)
    (hu : WellUsedHist E s ops) (hnt : Untouched E f s ops) (hc : call E s f = .enter o a) :
    call E (run E s ops) f = .enter o a := by
  induction ops generalizing s with
  | nil => exact hc
  | cons op rest ih =>
    refine ih (step E s op) (inv_step E s op h hu.1) hu.2 hnt.2 ?_
    exact enter_stable h hc fun p o' hp ho' =>
      have ⟨ht, _, hl⟩ := step_frame E s op f p o' h hnt.1 hp ho'
      ⟨ht, hl⟩

/-- "keeps holding … until reset", the part that is provable: `persists` under its `Untouched` hypothesis.
    FULL STATEMENT (not provable, refuted in Findings/C01F.lean `not_holdsUntilOwnReset`): the mock of builder `b` keeps
    holding under ANY operations of other builders, including their Reset after they were superseded on `f`.  Missing
    here: histories in which another builder's guard of `f` is unpatched (KNOWN_FINDINGS C01-K2-foreign-reset). -/
theorem holds_until_reset_partial (E : Env) (s : PState) (f : Nat) (o : Obj) (a : Addr) (ops : List Op) (h : Inv E s)
    (hu : WellUsedHist E s ops) (hnt : Untouched E f s ops) (hc : call E s f = .enter o a) :
    call E (run E s ops) f = .enter o a := persists E s f o a ops h hu hnt hc

/-- non-vacuity of `persists`: a mock of function 1 survives a collection with no external roots, a mock and
    un-mock of function 0, and another collection -/
example :
    let ops : List Op := [.gc (fun _ => false), .replace 0 ⟨0, 0xc000099000#64, 19⟩ ⟨0x4a0000#64, .cb 9⟩, .apply 1,
                          .unpatchFn 0, .gc (fun _ => false)]
    let s := run exEnv (init exEnv) [.replace 1 ⟨0, 0xc000012340#64, 19⟩ ⟨0x4a0000#64, .cb 7⟩, .apply 0]
    call exEnv s 1 = .enter ⟨0x4a0000#64, .cb 7⟩ 0xc000012340#64 ∧
    call exEnv (run exEnv s ops) 1 = .enter ⟨0x4a0000#64, .cb 7⟩ 0xc000012340#64 := by decide +kernel

def arun (E : Env) (s : AState) (ops : List AOp) : AState := ops.foldl (astep E) s

def AWellUsedHist (E : Env) : AState → List AOp → Prop
  | _, [] => True
  | s, op :: rest => awellUsed s op ∧ AWellUsedHist E (astep E s op) rest

theorem inv_cancelM (E : Env) (s : AState) (b f : Nat) (h : Inv E s.p) : Inv E (cancelM s b f).p := by
  unfold cancelM
  split
  · rename_i m _
    cases m.guard with
    | none => exact h
    | some g => exact inv_unpatchG E s.p g h
  · exact h

theorem inv_doApply (E : Env) (s : AState) (b f : Nat) (m : Mocker) (cw : Bool) (v : RValue) (o : Obj) (h : Inv E s.p) :
    Inv E (doApply E s b f m cw v o).1.p := by
  obtain ⟨h1, _, _, hs⟩ := replace_spec E s.p f v o h
  unfold doApply
  cases hrep : replace E s.p f v o with
  | mk p1 out =>
    rw [hrep] at h1 hs
    cases out with
    | ok g => exact inv_applyG E p1 g h1 ⟨f, _, (hs g rfl).1, rfl⟩
    | _ => exact h1

private theorem doApply_ok {E : Env} {s : AState} {b f : Nat} {m : Mocker} {cw : Bool} {v : RValue} {o : Obj} {g : Nat}
    (h : Inv E s.p) (hok : (doApply E s b f m cw v o).2 = .ok g) :
    call E (doApply E s b f m cw v o).1.p f = .enter o v.ptr ∧
    (doApply E s b f m cw v o).1.mockers b f =
      some { m with guard := some g, imp := some (getPtr v), canceled := false,
                    whenRes := if cw then none else m.whenRes, conds := if cw then [] else m.conds } := by
  have hr := rdx_is_closure E s.p f v o
  unfold doApply at hok ⊢
  cases hrep : replace E s.p f v o with
  | mk p1 out =>
    rw [hrep] at hr hok
    cases out with
    | ok g' => cases hok; exact ⟨hr _ h rfl, if_pos ⟨rfl, rfl⟩⟩
    | _ => cases hok

/-- the builder/mocker operations need no side condition: they use the patch layer in the disciplined way -/
theorem ainv_step (E : Env) (s : AState) (op : AOp) (h : Inv E s.p) (hu : awellUsed s op) :
    Inv E (astep E s op).p := by
  cases op with
  | applyCb b f kept v k code => exact inv_doApply E s b f _ _ v _ h
  | ret b f kept v code res =>
    simp only [astep, astepO]
    split
    · exact h
    · exact inv_doApply E s b f _ _ v _ h
  | whenRet b f kept v code cond res =>
    simp only [astep, astepO]
    split
    · exact h
    · exact inv_doApply E s b f _ _ v _ h
  | reset b =>
    exact List.foldlRecOn (motive := fun s => Inv E s.p) _ _ h fun s hs f _ => inv_cancelM E s b f hs
  | gc keep => exact inv_gc E s.p keep h
  | other op => exact inv_step E s.p op h hu

theorem ainv_run (E : Env) (s : AState) (ops : List AOp) (h : Inv E s.p) (hu : AWellUsedHist E s ops) :
    Inv E (arun E s ops).p := by
  induction ops generalizing s with
  | nil => exact h
  | cons op rest ih => exact ih _ (ainv_step E s op h hu.1) hu.2

theorem whenInvoke_ne_crash (c : List (Toks × Toks)) (d : List Toks) (a : Toks) : whenInvoke c d a ≠ .crash := by
  unfold whenInvoke
  split
  · nofun
  · split
    · nofun
    · nofun

private theorem callbackOf_ne_crash (s : AState) (b f : Nat) (args : Toks) : callbackOf s b f args ≠ .crash := by
  unfold callbackOf
  split
  · split
    · nofun
    · split
      · exact whenInvoke_ne_crash _ _ _
      · nofun
  · nofun

private theorem see_ne_crash {E : Env} {s : AState} (h : Inv E s.p) (f : Nat) (args : Toks) : see E s f args ≠ .crash := by
  unfold see
  rcases dispatch E s.p f h with ⟨hc, _⟩ | ⟨_, o, _, _, _, hc⟩
  · rw [hc]; nofun
  · rw [hc]
    show (match o.ctx with | .cb k => Seen.cb k | .stub b f' => callbackOf s b f' args) ≠ .crash
    split
    · nofun
    · exact callbackOf_ne_crash s _ _ args

/-- **Every history of Apply / Return / When / Reset / GC by any builders, through fresh or kept handles**: a call never
    crashes into freed memory, whatever its arguments -/
theorem api_never_crashes (E : Env) (ops : List AOp) (hu : AWellUsedHist E (ainit E) ops) (f : Nat) (args : Toks) :
    see E (arun E (ainit E) ops) f args ≠ .crash :=
  see_ne_crash (ainv_run E (ainit E) ops (inv_init E) hu) f args

/-- **Apply(callback).**  After `h.Apply(cb_k)` succeeds (handle fresh or kept), in any reachable state, a call of `f` is
    a closure call of `cb_k`'s own func value: code = its code word, RDX = its address — for every argument list —
    and the mocker no longer owns a `When` nor is canceled ("Apply discards the When"). -/
theorem apply_runs_callback (E : Env) (s : AState) (b f : Nat) (kept : Bool) (v : RValue) (k : Nat) (code : Addr) (g : Nat)
    (h : Inv E s.p) (hok : (astepO E s (.applyCb b f kept v k code)).2 = .ok g) :
    call E (astep E s (.applyCb b f kept v k code)).p f = .enter { code := code, ctx := .cb k } v.ptr ∧
    (∀ args, see E (astep E s (.applyCb b f kept v k code)) f args = .cb k) ∧
    (∃ m, (astep E s (.applyCb b f kept v k code)).mockers b f = some m ∧ m.whenRes = none ∧ m.canceled = false) := by
  simp only [astep, astepO] at hok ⊢
  obtain ⟨hc, hm⟩ := doApply_ok h hok
  exact ⟨hc, fun args => by simp only [see, hc], _, hm, rfl, rfl⟩

theorem getM_not_canceled_of_fresh (s : AState) (b f : Nat) : (getM s b f false).canceled = false := by
  unfold getM
  split
  · rename_i m _
    cases hc : m.canceled <;> simp [freshM, hc]
  · rfl

/-- **Return(...) installs exactly `baseMocker.callback` via `reflect.MakeFunc`** (mocker.go `whens`, `callback`).
    When the mocker has no `When`, `Return(res...)` makes the call of `f` a closure call of the MakeFunc object bound to
    this mocker, and what the caller sees is `callback`: the `When`'s result, for every argument list. -/
theorem stub_is_makefunc (E : Env) (s : AState) (b f : Nat) (kept : Bool) (v : RValue) (code : Addr) (res : Toks) (g : Nat)
    (h : Inv E s.p) (hnew : (getM s b f kept).whenRes = none)
    (hok : (astepO E s (.ret b f kept v code res)).2 = .ok g) :
    call E (astep E s (.ret b f kept v code res)).p f = .enter { code := code, ctx := .stub b f } v.ptr ∧
    ∀ args, see E (astep E s (.ret b f kept v code res)) f args = .stubRet [res] := by
  simp only [astep, astepO, hnew] at hok ⊢
  obtain ⟨hc, hm⟩ := doApply_ok h hok
  exact ⟨hc, fun args => by simp [see, hc, callbackOf, hm, whenInvoke]⟩

/-- **Apply, then Return on the same mocker** (the history `Apply(cb) ; Return(res)` through one handle, fix 32dc3bc):
    the stub is built and installed afresh — every later call receives `res`, none runs the old callback. -/
theorem return_after_apply_installs (E : Env) (s : AState) (b f : Nat) (kept : Bool) (v v' : RValue) (k : Nat)
    (code code' : Addr) (res : Toks) (g g' : Nat) (h : Inv E s.p)
    (hok : (astepO E s (.applyCb b f false v k code)).2 = .ok g)
    (hok' : (astepO E (astep E s (.applyCb b f false v k code)) (.ret b f kept v' code' res)).2 = .ok g') :
    ∀ args, see E (astep E (astep E s (.applyCb b f false v k code)) (.ret b f kept v' code' res)) f args = .stubRet [res] := by
  obtain ⟨_, _, m, hm, hw, hc⟩ := apply_runs_callback E s b f false v k code g h hok
  have hi : Inv E (astep E s (.applyCb b f false v k code)).p := ainv_step E s _ h trivial
  have hnew : (getM (astep E s (.applyCb b f false v k code)) b f kept).whenRes = none := by
    unfold getM; rw [hm]; simp [hc, hw]
  exact (stub_is_makefunc E _ b f kept v' code' res g' hi hnew hok').2

/-- a later `Return` on a mocker that still owns its `When` only hands one more result to that `When`
    (`m.when.Return`); nothing is re-applied, the installed closure is unchanged (which element of the sequence a call
    receives is C05's clause) -/
theorem return_again_appends (E : Env) (s : AState) (b f : Nat) (kept : Bool) (v : RValue) (code : Addr) (res : Toks)
    (r0 : List Toks) (hold : (getM s b f kept).whenRes = some r0) :
    (astep E s (.ret b f kept v code res)).p = s.p ∧
    (astep E s (.ret b f kept v code res)).mockers b f = some { getM s b f kept with whenRes := some (r0 ++ [res]) } := by
  simp [astep, astepO, hold, setM]

/-- **Conditional rules are judged on the arguments of the call at hand.**  `When(cond).Return(res)` on a mocker that owns
    a `When` re-applies nothing; afterwards a call whose arguments equal `cond` and match no earlier rule receives `res`,
    and every call with other arguments is answered as before.  (The observation is a function of the state and of the
    argument values of *this* call only — no call leaves anything behind in the model.) -/
theorem when_rule_added (E : Env) (s : AState) (b f : Nat) (v : RValue) (code : Addr) (cond res : Toks)
    (m : Mocker) (d : List Toks) (hm : s.mockers b f = some m) (hc : m.canceled = false) (hd : m.whenRes = some d) :
    (astep E s (.whenRet b f false v code cond res)).p = s.p ∧
    (m.conds.find? (fun c => c.1 == cond) = none →
      callbackOf (astep E s (.whenRet b f false v code cond res)) b f cond = .stubRet [res]) ∧
    (∀ args, args ≠ cond →
      callbackOf (astep E s (.whenRet b f false v code cond res)) b f args = callbackOf s b f args) := by
  have hg : getM s b f false = m := by
    unfold getM; rw [hm]; simp only [hc, Bool.not_false, Bool.and_true, Bool.false_eq_true, if_false]
  refine ⟨by simp only [astep, astepO, hg, hd, setM], ?_, ?_⟩
  · intro hnone
    -- no earlier rule matches `cond`, so the search reaches the rule just appended
    simp only [callbackOf, astep, astepO, hg, hd, setM, hc, and_self, if_true, Bool.false_eq_true, if_false, whenInvoke,
      List.find?_append, hnone, BEq.rfl, List.find?_cons_of_pos, Option.or_some, Option.getD_none]
  · intro args hne
    have hne' : (cond == args) = false := by
      simp only [beq_eq_false_iff_ne, ne_eq]; exact fun e => hne e.symm
    -- the appended rule does not match `args`, so the search ends as it did before
    simp only [callbackOf, astep, astepO, hg, hd, setM, hc, and_self, if_true, Bool.false_eq_true, if_false, whenInvoke,
      List.find?_append, hne', not_false_eq_true, List.find?_cons_of_neg, List.find?_nil, Option.or_none, hm]

/-- **Across GC**: a collection, whatever it keeps, changes nothing a caller can see -/
theorem gc_invisible (E : Env) (s : AState) (keep : Addr → Bool) (f : Nat) (args : Toks) (h : Inv E s.p) :
    see E (astep E s (.gc keep)) f args = see E s f args := by
  have key : call E (gc E s.p keep) f = call E s.p f := by
    rcases dispatch E s.p f h with ⟨hc, ht⟩ | ⟨p, o, _, _, _, hc⟩
    · rw [hc]; exact call_of_pristine ht
    · rw [hc]
      exact enter_stable h hc fun p' o' hp' ho' => ⟨rfl, (gc_heap_reg h keep hp').trans ho'⟩
  simp only [see, astep, astepO, key, callbackOf]

/-- non-vacuity at the API level: Apply by builder 0, drop everything, collect, call → the callback; then Return through
    the same mocker → the stub's value, a conditional rule → judged per call; Reset → the original -/
example :
    let s := arun exEnv (ainit exEnv) [.applyCb 0 1 false ⟨0, 0xc000012340#64, 19⟩ 7 0x4a0000#64, .gc (fun _ => false)]
    let s2 := arun exEnv s [.ret 0 1 false ⟨0, 0xc000012380#64, 19⟩ 0x45f000#64 ["5"],
                            .whenRet 0 1 false ⟨0, 0xc0000123c0#64, 19⟩ 0x45f000#64 ["1", "2"] ["9"]]
    see exEnv s 1 [] = .cb 7 ∧ see exEnv s2 1 ["1", "2"] = .stubRet [["9"]] ∧ see exEnv s2 1 ["1", "3"] = .stubRet [["5"]] ∧
    see exEnv (astep exEnv s2 (.reset 0)) 1 [] = .orig := by decide +kernel

end C01
