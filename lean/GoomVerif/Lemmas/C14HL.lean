import GoomVerif.Lemmas.C14L
import GoomVerif.Model.MemHist
/-! A relation on address spaces that survives a 13-byte write at an entry and an unmap (`Along`) survives every operation of
    `Model/MemHist`, hence every history; the guards change only as `Fills` allows. -/
namespace C14HL
open Mem C14L

/-- layout hypothesis: every 13-byte entry lies in one page, below the last page of the address space
    (true for 16/32-byte aligned function entries) -/
def LOK (L : Layout) : Prop := ∀ i, NoWrap (L.org i) 13 ∧ ∃ p, pages (L.org i) 13 = [p]

/-- invariant of histories (`hstep_gok`): every guard the caller holds sits at its target's entry with 13 saved and 13 jump
    bytes, so every write a guard makes is an instance of `Along.write` -/
def GOK (L : Layout) (h : HState) : Prop :=
  ∀ i g, h.slots i = some g → g.origin = L.org i ∧ g.originBytes.length = 13 ∧ g.jumpBytes.length = 13

def _root_.Mem.HOp.target : HOp → Option Nat
  | .patch i => some i
  | .apply i => some i
  | .unpatch i => some i
  | .restore i => some i
  | .unpatchFn i => some i
  | .unpatchAll => none
  | .unmap _ => none

/-- `R` holds between the address space before and after any history whose writes are 13-byte blocks at entries of targets
    in `T` -/
structure Along (L : Layout) (T : Nat → Prop) (R : State → State → Prop) : Prop where
  refl : ∀ s, R s s
  trans : ∀ {s₁ s₂ s₃}, R s₁ s₂ → R s₂ s₃ → R s₁ s₃
  write : ∀ i (data : List Byte) s, T i → data.length = 13 → R s (writeTo (L.org i) data s).1
  unmap : ∀ s p, R s { s with perm := fun q => if q = p then none else s.perm q }

theorem frame_along (L : Layout) (T : Nat → Prop) :
    Along L T (fun s s' => ∀ q, (∀ i, T i → ∀ j, j < 13 → q ≠ L.org i + BitVec.ofNat 64 j) → s'.mem q = s.mem q) where
  refl := fun _ _ _ => rfl
  trans := fun h12 h23 q hq => (h23 q hq).trans (h12 q hq)
  write := fun i _ _ hi hlen _ hq => writeTo_frame (fun j hj => hq i hi j (hlen ▸ hj))
  unmap := fun _ _ _ _ => rfl

/-- An entry that lies in ONE page `p` is what makes the `write` clause true: if `p` is mapped it ends r-x (normal path or
    fall-back), if not, both `mprotect` passes are refused at their first call and nothing changes; a write over two pages
    could leave the first one rw-. -/
theorem perm_along (L : Layout) (hL : LOK L) (T : Nat → Prop) :
    Along L T (fun s s' => ∀ q, s'.perm q = s.perm q ∨ s'.perm q = some RX ∨ s'.perm q = none) where
  refl := fun _ _ => Or.inl rfl
  trans := fun h12 h23 q => by
    rcases h23 q with h | h | h
    · rw [h]; exact h12 q
    · exact Or.inr (Or.inl h)
    · exact Or.inr (Or.inr h)
  write := fun i data s _ hlen q => by
    obtain ⟨hnw, p, hp⟩ := hL i
    rw [← hlen] at hnw hp
    cases hpp : s.perm p with
    | none => rw [writeTo_unmapped hp hpp]; exact Or.inl rfl
    | some v =>
      have hm : MappedAll s (pages (L.org i) data.length) := fun p' hp' => by
        rw [hp, List.mem_singleton] at hp'
        rw [hp', hpp]; rfl
      rw [(writeTo_mapped hnw hm).1, written_perm]
      split
      · exact Or.inr (Or.inl rfl)
      · exact Or.inl rfl
  unmap := fun s p q => by
    by_cases hq : q = p
    · exact Or.inr (Or.inr (if_pos hq))
    · exact Or.inl (if_neg hq)

section
variable {L : Layout} {T : Nat → Prop} {R : State → State → Prop} {h : HState}

theorem guardWrite_along (hR : Along L T R) {i : Nat} (hi : T i) (g : Guard) {bytes : List Byte} (hg : g.origin = L.org i)
    (hlen : bytes.length = 13) (s : State) : R s (guardWrite g bytes s).1 := by
  have hw := hR.write i bytes s hi hlen
  unfold guardWrite
  split
  · -- name the result of `writeTo` before the `let` is looked into
    rw [hg]
    generalize writeTo (L.org i) bytes s = r at hw ⊢
    exact hw
  · exact hR.refl s

theorem unpatchEntry_along (hR : Along L T R) (hG : GOK L h) (e : Nat × Bool) (he : T e.1) : R h.m (unpatchEntry h e).1 := by
  unfold unpatchEntry
  split
  · next g _ hs =>
    obtain ⟨ho, hob, _⟩ := hG e.1 g hs
    exact guardWrite_along hR he g ho hob h.m
  · exact hR.refl h.m

theorem find_fst {t : List (Nat × Bool)} {i : Nat} {e : Nat × Bool}
    (h : t.find? (fun e => e.1 = i) = some e) : e.1 = i :=
  of_decide_eq_true (List.find?_some (p := fun e : Nat × Bool => decide (e.1 = i)) h)

theorem prePatch_along (hR : Along L T R) (hG : GOK L h) {i : Nat} (hi : T i) : R h.m (prePatch h i).1 := by
  unfold prePatch
  cases hf : h.table.find? (fun e => e.1 = i) with
  | none => exact hR.refl h.m
  | some e => exact unpatchEntry_along hR hG e (find_fst hf ▸ hi)

theorem unpatchAllFrom_along (hR : Along L T R) (hG : GOK L h) (hT : ∀ i, T i) (es : List (Nat × Bool)) : R h.m (unpatchAllFrom h es).1.m := by
  induction es generalizing h with
  | nil => exact hR.refl h.m
  | cons e rest ih =>
    have hr := unpatchEntry_along hR hG e (hT e.1)
    rw [unpatchAllFrom]
    generalize unpatchEntry h e = u at hr ⊢
    obtain ⟨s1, r⟩ := u
    cases r with
    | panic => exact hr
    | _ => exact hR.trans hr (ih (h := { h with m := s1 }) hG)

theorem patchAfter_m (L : Layout) (h : HState) (i : Nat) (s1 : State) : (patchAfter L h i s1).1.m = s1 := by
  unfold patchAfter
  split
  · rfl
  · dsimp only
    split <;> rfl

theorem hstep_along (hR : Along L T R) (hG : GOK L h) (op : HOp) (hT : ∀ i, op.target = some i ∨ op = .unpatchAll → T i) :
    R h.m (hstep L h op).1.m := by
  cases op with
  | patch i =>
    have hpre := prePatch_along hR hG (hT i (Or.inl rfl))
    simp only [hstep]
    split
    · exact hpre
    · rw [patchAfter_m]; exact hpre
  | apply i =>
    cases hs : h.slots i with
    | none => simp only [hstep, hs]; exact hR.refl h.m
    | some g =>
      obtain ⟨ho, _, hjb⟩ := hG i g hs
      simp only [hstep, hs, ho]
      exact hR.write i g.jumpBytes h.m (hT i (Or.inl rfl)) hjb
  | unpatch i | restore i =>
    cases hs : h.slots i with
    | none => simp only [hstep, hs]; exact hR.refl h.m
    | some g =>
      obtain ⟨ho, hob, hjb⟩ := hG i g hs
      simp only [hstep, hs]
      -- the saved bytes or the jump bytes: 13 of them either way
      exact guardWrite_along hR (hT i (Or.inl rfl)) g ho (by assumption) h.m
  | unpatchFn i =>
    cases hf : h.table.find? (fun e => e.1 = i) with
    | none => simp only [hstep, hf]; exact hR.refl h.m
    | some e =>
      have hr := unpatchEntry_along hR hG e (find_fst hf ▸ hT i (Or.inl rfl))
      simp only [hstep, hf]
      generalize unpatchEntry h e = u at hr ⊢
      obtain ⟨s1, r⟩ := u
      cases r <;> exact hr
  | unpatchAll => exact unpatchAllFrom_along hR hG (fun i => hT i (Or.inr rfl)) h.table
  | unmap p => exact hR.unmap h.m p

end

/-- what an operation may put into slot `i`: a fresh guard for a target longer than the jump (`patch i`), or the guard that
    is there, marked applied (`apply i`) -/
def Fills (L : Layout) (h : HState) (i : Nat) (g' : Guard) : Prop :=
  (13 < L.fsz i ∧ g'.origin = L.org i ∧ g'.originBytes.length = 13 ∧ g'.jumpBytes.length = 13) ∨
  ∃ g, h.slots i = some g ∧ g' = { g with applied := true }

theorem patchAfter_slots (L : Layout) (h : HState) (i : Nat) (s1 : State) :
    (patchAfter L h i s1).1.slots = h.slots ∨
    ∃ g', (patchAfter L h i s1).1.slots = setSlot h.slots i (some g') ∧ Fills L h i g' := by
  simp only [patchAfter, genJumpData_eq]
  by_cases hsz : L.fsz i ≤ 13
  · exact Or.inl (by rw [if_pos hsz])
  · rw [if_neg hsz]
    simp only
    split
    · exact Or.inl rfl
    · exact Or.inr ⟨_, rfl, Or.inl ⟨Nat.lt_of_not_le hsz, rfl, (length_readBytes ..).trans (jump_len ..),
        jump_len (L.org i) L.to⟩⟩

theorem unpatchAllFrom_slots : ∀ (es : List (Nat × Bool)) (h : HState), (unpatchAllFrom h es).1.slots = h.slots := by
  intro es
  induction es with
  | nil => intro h; rfl
  | cons e rest ih =>
    intro h
    rw [unpatchAllFrom]
    rcases unpatchEntry h e with ⟨s1, r⟩
    cases r with
    | panic => rfl
    | _ => exact ih _

theorem hstep_slots (L : Layout) (h : HState) (op : HOp) :
    (hstep L h op).1.slots = h.slots ∨
    ∃ i g', (hstep L h op).1.slots = setSlot h.slots i (some g') ∧ Fills L h i g' := by
  cases op with
  | patch i =>
    simp only [hstep]
    split
    · exact Or.inl rfl
    · exact (patchAfter_slots L h i _).imp_right (fun hx => ⟨i, hx⟩)
  | apply i =>
    cases hs : h.slots i with
    | none => exact Or.inl (by simp only [hstep, hs])
    | some g => simp only [hstep, hs]; exact Or.inr ⟨i, _, rfl, Or.inr ⟨g, hs, rfl⟩⟩
  | unpatch i | restore i =>
    simp only [hstep]
    cases h.slots i <;> exact Or.inl rfl
  | unpatchFn i =>
    cases hf : h.table.find? (fun e => e.1 = i) with
    | none => exact Or.inl (by simp only [hstep, hf])
    | some e =>
      simp only [hstep, hf]
      rcases unpatchEntry h e with ⟨s1, r⟩
      cases r <;> exact Or.inl rfl
  | unpatchAll => exact Or.inl (unpatchAllFrom_slots h.table h)
  | unmap p => exact Or.inl rfl

theorem hstep_gok (L : Layout) (h : HState) (hG : GOK L h) (op : HOp) : GOK L (hstep L h op).1 := by
  intro k g hs
  rcases hstep_slots L h op with e | ⟨i, g', e, hfill⟩
  · rw [e] at hs; exact hG k g hs
  · rw [e, setSlot] at hs
    split at hs
    · next hki =>
      cases hs
      rcases hfill with ⟨_, hfresh⟩ | ⟨g₀, hs₀, rfl⟩
      · exact hki ▸ hfresh
      · exact hki ▸ hG i g₀ hs₀
    · exact hG k g hs

theorem hstep_short (L : Layout) (h : HState) (i : Nat) (hs : L.fsz i ≤ 13) (hn : h.slots i = none) (op : HOp) :
    (hstep L h op).1.slots i = none := by
  rcases hstep_slots L h op with e | ⟨k, g', e, hfill⟩
  · rw [e]; exact hn
  · rw [e, setSlot]
    split
    · next hik =>
      rcases hfill with ⟨hlong, _⟩ | ⟨g₀, hs₀, _⟩
      · exact absurd (hik ▸ hs) (Nat.not_le_of_lt hlong)
      · rw [← hik, hn] at hs₀; cases hs₀
    · exact hn

theorem hrun_inv (L : Layout) (P : HState → Prop) (hP : ∀ h op, P h → P (hstep L h op).1) :
    ∀ (ops : List HOp) (h : HState), P h → P (hrun L h ops) := by
  intro ops
  induction ops with
  | nil => intro h hp; exact hp
  | cons op rest ih => intro h hp; exact ih _ (hP h op hp)

/-- `T` need only hold the targets the history names, as long as it has no `UnpatchAll` -/
theorem hrun_along {L : Layout} {T : Nat → Prop} {R : State → State → Prop} (hR : Along L T R) (ops : List HOp)
    (hT : ∀ op ∈ ops, ∀ i, op.target = some i ∨ op = .unpatchAll → T i) (h : HState) (hG : GOK L h) :
    R h.m (hrun L h ops).m := by
  induction ops generalizing h with
  | nil => exact hR.refl h.m
  | cons op rest ih =>
    exact hR.trans (hstep_along hR hG op (hT op (List.mem_cons_self ..)))
      (ih (fun op' hm => hT op' (List.mem_cons_of_mem _ hm)) _ (hstep_gok L h hG op))

end C14HL
