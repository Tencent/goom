import GoomVerif.Props.C19
/-! Finding F27 (property C19): the debug wrapper renders
    arguments, receivers and results with `fmt.Sprintf("%v", a.Interface())` (arg/value.go `SprintV`), and fmt runs USER methods
    (String / Error / Format / GoString).  So with debug logging open user code runs that does not run with logging off:
    a String() that records something makes the transcripts differ; a String() that calls the mocked method re-enters the
    wrapper without bound (that case is `render v = none`, as in F13).  No small repair inside goom short of not using
    `%v` on user values.  With a non-empty `renderEvents` the full statement `C19.DebugTransparent` is false. -/
namespace Findings.C19F27
open Debug C19

/-- an argument whose String() method counts its calls -/
def counting : Val := .atom { kind := .iface, isNil := false, tok := "z16" }

def env : Env :=
  { sig := { params := [.iface], velem := none, nOut := 1, isMethod := false }, kind := .patch, name := "pkg.FA",
    render := fun v => some v.tok, orig := fun _ => [intVal 6000],
    renderEvents := fun v => if v.tok == "z16" then ["!str"] else [] }

def ops : List Op := [.apply { name := "sum0", kind := .sum, k := 0 }, .call [counting]]

theorem user_method_runs_only_under_debug :
    obs env (initSt .off) ops = ["ok", "cbsum0(z16)->r:0"] ∧ obs env (initSt .debug) ops = ["ok", "cbsum0(z16)!str->r:0"] := by decide +kernel

theorem not_transparent : ¬ DebugTransparent env := by
  intro h
  have := h .debug ops
  rw [user_method_runs_only_under_debug.2, user_method_runs_only_under_debug.1] at this
  simp at this

/-- fmt returns and the target is not on the logger's path: independent of F13 and F14 -/
theorem other_hypotheses_hold : (∀ v, (env.render v).isSome = true) ∧ env.loggerCalls = false := ⟨fun _ => rfl, by decide +kernel⟩

end Findings.C19F27
