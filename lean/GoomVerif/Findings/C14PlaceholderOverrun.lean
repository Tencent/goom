import GoomVerif.Props.C14
/-!
# Finding C14-placeholder-bound-overrun (recorded, not an obligation)

`install_touches_only` bounds the placeholder write by `tsize`, the value `bytecode.GetFuncSize(placeholder)` returned
(twice in `fixOriginFuncToTrampoline`, fix_origin_amd64.go) — that is what the code does.  `GetFuncSize` is a scan that stops only at INT3 padding; for a
placeholder whose code exactly fills its slot it runs on into the next function, so `tsize` exceeds the placeholder's body.
The clause of the property, "for an origin placeholder, only inside the placeholder's own body", then fails: with a
16-byte body, a scanned size of 96 and 26 bytes of relocated code the byte at `placeholder+20` (inside the neighbour)
is overwritten.  Observed on the real code by the probe (`c14.tramp … mph=16`).
-/
namespace C14.Findings
open Mem C14L

/-- the full-strength clause with the placeholder's true body `body` in place of goom's scanned size -/
def PlaceholderBodyOnly : Prop :=
  ∀ (origin to t : Addr) (funcSize scanned body : Nat) (fix : List Byte) (s : State) (q : Addr),
    body ≤ scanned → ¬ C14.InRange origin 13 q → ¬ C14.InRange t body q →
    (install origin to funcSize (some (t, scanned, fix)) s).1.mem q = s.mem q

theorem placeholder_body_overrun : ¬ PlaceholderBodyOnly := by
  intro h
  let s : State := { mem := fun _ => 0, perm := fun _ => some RX }
  let fix : List Byte := List.replicate 26 0x11#8
  -- `placeholder+20` lies outside the entry and outside the 16-byte body, but inside the 26 bytes written
  have hout : ∀ a n, (a.toNat + n ≤ 0x500014 ∨ 0x500014 < a.toNat) → a.toNat + n < 2^64 →
      ¬ C14.InRange a n (0x500000#64 + BitVec.ofNat 64 20) := by
    rintro a n ha hn ⟨j, hj, e⟩
    have := congrArg BitVec.toNat e
    rw [toNat_add_ofNat a j (by omega)] at this
    have h20 : (0x500000#64 + BitVec.ofNat 64 20).toNat = 0x500014 := by decide
    omega
  have hq1 := hout 0x401000#64 13 (Or.inl (by decide)) (by decide)
  have hbad := h 0x401000#64 0xc000001000#64 0x500000#64 64 96 16 fix s _ (by decide) hq1
    (hout 0x500000#64 16 (Or.inl (by decide)) (by decide))
  -- what the model (and the code) really does: the placeholder write lands all 26 bytes, the entry write is elsewhere
  have hN : NoWrap 0x500000#64 fix.length := by unfold NoWrap; decide
  have hw := writeTo_ok (s := s) hN (fun _ _ => rfl) rfl
  have hentry := C14.write_frame 0x401000#64 (Gen.Amd64.jmpToFunctionValue 0x401000#64 0xc000001000#64)
    (written 0x500000#64 fix s) _ (fun j hj e => hq1 ⟨j, hj, e⟩)
  rw [install, genJumpData_eq, if_neg (by decide)] at hbad
  simp only [jump_len, show trampolineAccepts 13 96 fix.length = true from by decide, if_true, hw, Outcome.returned] at hbad
  generalize writeTo 0x401000#64 _ (written 0x500000#64 fix s) = r at hentry hbad
  have h20 : fix[20]'(by decide) = s.mem (0x500000#64 + BitVec.ofNat 64 20) :=
    (written_mem_at (s := s) hN 20 (by decide)).symm.trans (hentry.symm.trans hbad)
  exact absurd h20 (by decide)

end C14.Findings
