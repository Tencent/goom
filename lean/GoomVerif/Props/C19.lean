import GoomVerif.Lemmas.C19L
/-! # C19 — debug and trace logging never change what a mock does

Model: `Model/Debug.lean` (`interceptDebugInfo`, `SprintV`, the logger switches, Apply/Return/When/Returns/call/Reset).
`fmt` is the parameter `env.render`; the transparency theorem needs it to be total (finding F13 is exactly a value
on which it is not).  All statements quantify over every environment (signature, mocker kind, original function),
every operation list and every value; nothing is enumerated. -/
namespace C19
open Debug C19L

/-! ## clause "rendering arguments and results never panics": SprintV's guards -/

/-- SprintV never hands a nil pointer or nil interface to fmt: its output is the same for any two renderers that
    agree on all other values (arg/value.go `SprintV`). -/
theorem sprintv_guards_nil (r r' : Val → Option String) (ps : List Val)
    (h : ∀ a ∈ ps, guardedNil a = false → r a = r' a) : sprintV r ps = sprintV r' ps := by
  unfold sprintV
  rw [sprintPieces_congr r r' ps h]

/-- A vector of nil pointers / nil interfaces is rendered as "nil,..,nil" whatever fmt would do with them —
    even a renderer that fails on everything is never consulted. -/
theorem sprintv_nil_only (r : Val → Option String) (ps : List Val) (h : ∀ a ∈ ps, guardedNil a = true) :
    sprintV r ps = some (joinWith "," (ps.map (fun _ => "nil"))) := by
  rw [sprintV, sprintPieces_eq_map r (fun _ => "nil") ps (fun a ha => if_pos (h a ha))]
  rfl

example : sprintV (fun _ => none) [nilPtr, nilIface, nilPtr] = some "nil,nil,nil" := by decide +kernel

/-- SprintV returns whenever fmt returns on the values that are not guarded. -/
theorem sprintv_total (r : Val → Option String) (ps : List Val)
    (h : ∀ a ∈ ps, guardedNil a = false → (r a).isSome = true) : (sprintV r ps).isSome = true :=
  sprintV_isSome r ps h

/-- hypotheses of `sprintv_total` are satisfiable with a renderer that does fail elsewhere -/
example : (sprintV (fun v => if v.isNil then none else some v.tok) [nilPtr, intVal 3, nilIface]).isSome = true := by decide +kernel

/-! ## clause "variadic targets": CallSlice on the packed slice ≡ direct call -/

/-- The wrapper's choice (debug.go `interceptDebugInfo`: `CallSlice` iff variadic, else `Call`) forwards every argument vector a
    compiled call can deliver to the wrapped function unchanged, for every signature. -/
theorem variadic_forwarding {β : Type} (sg : Sig) (f : List Val → β) (fail : String → β) (args : List Val)
    (h : sg.accepts args = true) :
    (if sg.variadic then reflectCallSlice sg f fail args else reflectCall sg f fail args) = f args :=
  reflect_forward sg f fail args h

/-- a variadic signature with fixed parameters and a non-empty packed slice meets the hypothesis -/
example : ({ params := [.str], velem := some .int, nOut := 1, isMethod := false } : Sig).accepts
    [.atom { kind := .str, isNil := false, tok := "sab" }, .pack [{ kind := .int, isNil := false, tok := "4" }]] = true := by decide +kernel

/-- Why the distinction in `interceptDebugInfo` is needed: plain `Call` on the packed vector of a variadic function never
    reaches the callee (reflect refuses `[]E` as an `E`). -/
theorem call_on_packed_slice_fails {β : Type} (sg : Sig) (f : List Val → β) (fail : String → β) (args : List Val) (e : Kind)
    (hv : sg.velem = some e) (h : sg.accepts args = true) :
    reflectCall sg f fail args = fail "reflect-cannot-use-as-type" := by
  unfold Sig.accepts at h
  rw [hv] at h
  obtain ⟨fixed, tail, rfl, hl, hk, es, rfl⟩ := accepts_split h
  -- `Call` takes everything after the fixed parameters as elements: here that is the slice itself
  simp only [reflectCall, hv, List.length_append, hl, Nat.not_lt.2 (Nat.le_add_right ..), if_false,
    List.take_left' hl, List.drop_left' hl, hk, Bool.not_true, Bool.false_eq_true, toElems, toElem]

/-! ## main clause: the logging configuration changes only what is logged -/

/-- The full-strength statement for an environment: all four configurations give the transcript of logging-off. -/
def DebugTransparent (env : Env) : Prop :=
  ∀ (cfg : Cfg) (ops : List Op), obs env (initSt cfg) ops = obs env (initSt .off) ops

/-- General form: two states that differ only in logger switches, log, and debug wrappers around what is installed
    produce the same transcript (calls, arguments, results, panics) for every operation list — including lists that
    toggle the switches in the middle — and end in states that again differ only in that way.
    Hypotheses (`Total`): fmt returns on every value (otherwise `Findings/C19F13.lean`), the user methods fmt runs
    (String/Error/Format) record nothing (otherwise `Findings/C19F27.lean`), and the mocked function is not in the list
    `loggerCallees` of functions the console logger calls itself (otherwise `Findings/C19F14.lean`).
    Limits of the statement, not of the proof: one mocker per environment; sequential callers; panics are classes. -/
theorem debug_transparent_sim (env : Env) (tot : Total env) (a b : St) (h : Sim a b) (ops : List Op) :
    obs env a ops = obs env b ops ∧ Sim (run env a ops).2 (run env b ops).2 :=
  run_sim tot ops h

/-- The property for the four configurations {off, OpenDebug, OpenTrace, GOOM_DEBUG}, partial: under `Total`. -/
theorem debug_transparent_partial (env : Env) (tot : Total env) : DebugTransparent env := by
  intro cfg ops
  have h : Sim (initSt cfg) (initSt .off) := by cases cfg <;> exact ⟨rfl, rfl, rfl⟩
  exact (debug_transparent_sim env tot _ _ h ops).1

/-- Turning the switches in the middle of a scenario is invisible: the transcript of a scenario with its
    OpenDebug/CloseDebug/OpenTrace/CloseTrace operations removed, started in ANY related state (e.g. logging never touched),
    is the transcript of the original scenario without the tokens of those operations. -/
theorem toggles_erasable (env : Env) (tot : Total env) (a b : St) (h : Sim a b) (ops : List Op) :
    obs env b (ops.filter (fun o => !isDbg o)) = eraseToks ops (obs env a ops) :=
  run_erase tot ops h

def exEnvT : Env := { sig := { params := [], velem := none, nOut := 1, isMethod := false }, kind := .patch, name := "pkg.G",
                      render := fun v => some v.tok, orig := fun _ => [intVal 0] }

example : obs exEnvT (initSt .off) ([Op.dbg .tron, .ret [intVal 3], .dbg .troff, .call [], .dbg .on].filter (fun o => !isDbg o))
        = eraseToks [Op.dbg .tron, .ret [intVal 3], .dbg .troff, .call [], .dbg .on] ["ok", "ok", "ok", "->r:3", "ok"] := by decide +kernel

/-- Variable mocks (Var / UnExportedVar: Set, Apply, Reset): what the test reads from the variable, and the variable's
    final value, do not depend on the logging configuration the process started in (both runs perform the same operations,
    the same switch operations among them).  Full on the model (the debug line at the end of `Apply` / `Set` in var.go,
    ue_var.go renders nothing but the mocker's name). -/
theorem var_transparent (cfg : Cfg) (v : Val) (ops : List VarOp) :
    (varRun (varInit cfg v) ops).1 = (varRun (varInit .off v) ops).1 ∧
    (varRun (varInit cfg v) ops).2.cur = (varRun (varInit .off v) ops).2.cur :=
  varRun_sim ops rfl rfl

/-- a pointer variable that is nil before the mock: the debug run logs, the off run does not, the reads agree and Reset restores nil -/
example : (varRun (varInit .debug nilPtr) [.set (intVal 1), .read, .reset, .read]).1 = ["ok", "1", "ok", "nil"] ∧
          (varRun (varInit .debug nilPtr) [.set (intVal 1), .read, .reset, .read]).2.log.length = 1 ∧
          (varRun (varInit .off nilPtr) [.set (intVal 1), .read, .reset, .read]).2.log.length = 0 := by decide +kernel

/-- Under `Total` the process never dies in the logging code, in any configuration, whatever the scenario. -/
theorem debug_never_crashes (env : Env) (tot : Total env) (cfg : Cfg) (ops : List Op) :
    (run env (initSt cfg) ops).2.dead = false :=
  run_dead tot ops _ (by cases cfg <;> rfl)

/-! ### the hypotheses are satisfiable and the flag really does something -/

def exSig : Sig := { params := [.str], velem := some .int, nOut := 1, isMethod := false }
def exEnv : Env := { sig := exSig, kind := .patch, name := "pkg.F", render := fun v => some v.tok, orig := fun _ => [intVal 0] }
def exOps : List Op :=
  [.apply { name := "sum1", kind := .sum, k := 1 },
   .call [.atom { kind := .str, isNil := false, tok := "sab", n := 2 }, .pack [{ kind := .int, isNil := false, tok := "4", n := 4 }]],
   .ret [intVal 9],
   .call [.atom { kind := .str, isNil := false, tok := "s", n := 0 }, .pack []]]

example : Total exEnv := ⟨fun _ => rfl, fun _ => rfl, by decide +kernel⟩
/-- in configuration debug the callback IS reached through the wrapper and two lines ARE logged, in configuration off
    neither happens — and the transcripts agree (by the theorem, and here by evaluation) -/
example : (run exEnv (initSt .debug) exOps).2.wraps = [true] ∧ (run exEnv (initSt .debug) exOps).2.log.length = 2 ∧
          (run exEnv (initSt .off) exOps).2.wraps = [false] ∧ (run exEnv (initSt .off) exOps).2.log.length = 0 ∧
          obs exEnv (initSt .debug) exOps = obs exEnv (initSt .off) exOps ∧
          obs exEnv (initSt .off) exOps = ["ok", "cbsum1(sab,[4]#1)->r:7~a1", "ok", "->r:9"] := by decide +kernel

/-- In the model OpenTrace is more than OpenDebug: it additionally turns on the LogLevel-gated patch diagnostics
    (`traceLines`), which — like the console log — no observation depends on.  (`initSt .env` = `initSt .debug` is
    faithful: logger.go `init` just calls `OpenDebug()`.) -/
example : (run exEnv (initSt .trace) exOps).2.traceLines = 2 ∧ (run exEnv (initSt .debug) exOps).2.traceLines = 0 ∧
          obs exEnv (initSt .trace) exOps = obs exEnv (initSt .debug) exOps := by decide +kernel

end C19
