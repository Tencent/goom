import GoomVerif.Model.ApiC12
import GoomVerif.Model.LwwC12
/-! The reference (`Model/LwwC12`) has no caches or mocker objects; it is related to `Model/ApiC12` target by target through
    `live`.  Everything here holds only while no op addresses the two-method interface variable (`WF.no_i2`, `isI2H`, `opI2`). -/
namespace C12M

/-- `Builder.Interface` tests the context's flag, `live` the mocker's: the second half of `if_ctx` makes a cancelled context
    a cache miss for `.im` (`lookup_ok`), and `set_sim` / `cancel_sim` have to re-establish it -/
structure WF (s : State) : Prop where
  slot_lt : ∀ t mid, slot s t = some mid → mid < s.next
  slot_tgt : ∀ t mid, slot s t = some mid → (s.mks mid).tgt = t
  slot_ctx : ∀ t mid, slot s t = some mid → t ≠ .im → (s.mks mid).ctx = none
  if_ctx : ∀ c inner, s.b.ifC = some (c, inner) →
    ∀ mid, inner = some mid → ((s.mks mid).ctx = some c ∧ (s.ctxc c = true → (s.mks mid).canceled = true))
  /-- the two-method interface variable has not been addressed (histories that do are outside the theorems: known
      finding `iface-cancel-one-method`) -/
  no_i2 : s.b.i2C = none

/-- the relation at one target: what is installed and what the reference says are both determined by the live mocker.
    `guard = true` is carried so that Cancel, which un-installs only under a guard, brings `inst` back to `orig` (`cancel_sim`). -/
def Rt (s : State) (a : Lww) (t : Tgt) : Prop :=
  match live s t with
  | none => s.inst t = .orig ∧ a.beh t = .orig
  | some mid =>
    match (s.mks mid).when with
    | some w => s.inst t = .via mid ∧ a.beh t = .stub w ∧ (s.mks mid).guard = true
    | none => (s.inst t = .orig ∧ a.beh t = .orig) ∨ (∃ k, s.inst t = .cb k ∧ a.beh t = .cb k ∧ (s.mks mid).guard = true)

structure R (s : State) (a : Lww) : Prop where
  pkg : s.b.pkg = a.pkg
  tgt : ∀ t, Rt s a t
  /-- nothing is ever installed for a function that does not exist -/
  ph : ∀ t, isPhantom t = true → s.inst t = .orig ∧ a.beh t = .orig

theorem slot_of_b {s s2 : State} (h : s2.b = s.b) (x : Tgt) : slot s2 x = slot s x := by
  unfold slot; rw [h]

theorem slot_setM (s : State) (mid : Nat) (m : Mocker) (t : Tgt) : slot (setM s mid m) t = slot s t :=
  slot_of_b rfl t
theorem slot_setInst (s : State) (t0 : Tgt) (i : Inst) (t : Tgt) : slot (setInst s t0 i) t = slot s t :=
  slot_of_b rfl t

theorem slot_im (s : State) : slot s .im = match s.b.ifC with | some (_, c) => c | none => none := rfl

theorem slot_st (s : State) (j : Bool) : slot s (.st j) = stInner s j := by
  simp only [slot, stInner]; cases s.b.stC <;> rfl

theorem slot_xs (s : State) (p : Pkg) : slot s (.xs p) = xsInner s p := rfl

theorem liveOf_some {s : State} {c : Option Nat} {mid : Nat} :
    liveOf s c = some mid ↔ c = some mid ∧ (s.mks mid).canceled = false := by
  unfold liveOf
  cases c with
  | none => simp
  | some m =>
    by_cases h : (s.mks m).canceled = true
    · simp [h]; intro e; subst e; simp [h]
    · simp [h]; intro e; subst e; simpa using h

theorem liveOf_none {s : State} {c : Option Nat} :
    liveOf s c = none ↔ ∀ mid, c = some mid → (s.mks mid).canceled = true := by
  unfold liveOf
  cases c with
  | none => simp
  | some m =>
    by_cases h : (s.mks m).canceled = true <;> simp [h]

theorem live_some {s : State} {t : Tgt} {mid : Nat} : live s t = some mid ↔ slot s t = some mid ∧ (s.mks mid).canceled = false :=
  liveOf_some

theorem live_congr {s s' : State} {t : Tgt} (hs : slot s' t = slot s t) (hm : ∀ m, slot s t = some m → s'.mks m = s.mks m) :
    live s' t = live s t := by
  unfold live; rw [hs]
  cases h : slot s t with
  | none => rfl
  | some m => simp only [liveOf, hm m h]

theorem slot_i2_none {s : State} (hw : WF s) (j : Bool) : slot s (.i2 j) = none := by
  simp only [slot, hw.no_i2]

/-- `s'` differs from `s` at most in the builder's package, in the registers, and in the shape of the cache containers -/
structure Same (s s' : State) : Prop where
  mks : s'.mks = s.mks
  next : s'.next = s.next
  ctxc : s'.ctxc = s.ctxc
  inst : s'.inst = s.inst
  slot : ∀ t, slot s' t = slot s t
  ifC : s'.b.ifC = s.b.ifC
  i2C : s'.b.i2C = s.b.i2C

theorem same_setPkg (s : State) (p : Pkg) : Same s (setPkg s p) :=
  ⟨rfl, rfl, rfl, rfl, fun t => by cases t <;> rfl, rfl, rfl⟩

theorem same_structLookup (s : State) : Same s (structLookup s) := by
  refine ⟨rfl, rfl, rfl, rfl, fun t => ?_, rfl, rfl⟩
  cases t with
  | st j => exact (slot_st s j).symm
  | _ => rfl

theorem same_exportStructLookup (s : State) : Same s (exportStructLookup s) := by
  refine ⟨rfl, rfl, rfl, rfl, fun t => ?_, rfl, rfl⟩
  cases t with
  | xs q =>
    show (match upd s.b.xsC s.b.pkg (some (xsInner s s.b.pkg)) q with | some c => c | none => none) = xsInner s q
    by_cases h : q = s.b.pkg
    · rw [h, upd_same]
    · rw [upd_other _ _ _ _ h]; rfl
  | _ => rfl

theorem WF.same {s s' : State} (hw : WF s) (h : Same s s') : WF s' :=
  ⟨fun t m e => by rw [h.next]; exact hw.slot_lt t m (by rw [← h.slot]; exact e),
   fun t m e => by rw [h.mks]; exact hw.slot_tgt t m (by rw [← h.slot]; exact e),
   fun t m e => by rw [h.mks]; exact hw.slot_ctx t m (by rw [← h.slot]; exact e),
   fun c inner e => by rw [h.mks, h.ctxc]; exact hw.if_ctx c inner (by rw [← h.ifC]; exact e),
   by rw [h.i2C]; exact hw.no_i2⟩

theorem rt_frame {s s' : State} {a a' : Lww} {t : Tgt} (hs : slot s' t = slot s t)
    (hm : ∀ m, slot s t = some m → s'.mks m = s.mks m) (hi : s'.inst t = s.inst t) (hb : a'.beh t = a.beh t)
    (h : Rt s a t) : Rt s' a' t := by
  unfold Rt at h ⊢
  rw [live_congr hs hm, hi, hb]
  cases hlv : live s t with
  | none => rw [hlv] at h; exact h
  | some mid => rw [hlv] at h; simp only []; rw [hm mid (live_some.mp hlv).1]; exact h

theorem R.same {s s' : State} {a a' : Lww} (hr : R s a) (h : Same s s') (hp : s'.b.pkg = a'.pkg) (hb : a'.beh = a.beh) : R s' a' :=
  ⟨hp, fun t => rt_frame (h.slot t) (fun _ _ => by rw [h.mks]) (by rw [h.inst]) (by rw [hb]) (hr.tgt t),
   fun t e => by rw [h.inst, hb]; exact hr.ph t e⟩

theorem R.update {s s' : State} {a a' : Lww} {t : Tgt} {mid : Nat} (hr : R s a)
    (hmid : ∀ t' m, t' ≠ t → slot s t' = some m → m ≠ mid)
    (hs : ∀ t', t' ≠ t → slot s' t' = slot s t') (hm : ∀ j, j ≠ mid → s'.mks j = s.mks j)
    (hi : ∀ t', t' ≠ t → s'.inst t' = s.inst t') (hb : ∀ t', t' ≠ t → a'.beh t' = a.beh t') (hp : s'.b.pkg = a'.pkg)
    (ht : Rt s' a' t) (hph : isPhantom t = true → s'.inst t = .orig ∧ a'.beh t = .orig) : R s' a' := by
  refine ⟨hp, fun t' => ?_, fun t' e => ?_⟩
  · by_cases e : t' = t
    · rw [e]; exact ht
    · exact rt_frame (hs t' e) (fun m h => hm m (hmid t' m e h)) (hi t' e) (hb t' e) (hr.tgt t')
  · by_cases e' : t' = t
    · rw [e'] at e ⊢; exact hph e
    · rw [hi t' e', hb t' e']; exact hr.ph t' e

theorem WF.other_mid {s : State} (hw : WF s) {t : Tgt} {mid : Nat} (hs : slot s t = some mid) :
    ∀ t' m, t' ≠ t → slot s t' = some m → m ≠ mid :=
  fun t' m hne h e => hne (by rw [← hw.slot_tgt t' m h, e, hw.slot_tgt t mid hs])

theorem rt_dead {s : State} {a : Lww} {t : Tgt} (hl : live s t = none) : Rt s a t ↔ s.inst t = .orig ∧ a.beh t = .orig := by
  unfold Rt; rw [hl]

theorem rt_live {s : State} {a : Lww} {t : Tgt} {mid : Nat} (hl : live s t = some mid) : Rt s a t ↔
    (∃ w, (s.mks mid).when = some w ∧ s.inst t = .via mid ∧ a.beh t = .stub w ∧ (s.mks mid).guard = true) ∨
    ((s.mks mid).when = none ∧
      ((s.inst t = .orig ∧ a.beh t = .orig) ∨ ∃ k, s.inst t = .cb k ∧ a.beh t = .cb k ∧ (s.mks mid).guard = true)) := by
  unfold Rt; rw [hl]; simp only []; cases (s.mks mid).when <;> simp

def LookupOk (s : State) (t : Tgt) (s' : State) (mid : Nat) : Prop :=
  WF s' ∧ s'.b.pkg = .p0 ∧ s'.inst = s.inst ∧ s'.regs = s.regs ∧ s.next ≤ s'.next ∧
  ((live s t = some mid ∧ Same s s')
   ∨ (live s t = none ∧ mid = s.next ∧ (∀ j, j ≠ mid → s'.mks j = s.mks j) ∧ (s'.mks mid).when = none
        ∧ (s'.mks mid).canceled = false ∧ (s'.mks mid).guard = false
        ∧ slot s' t = some mid ∧ ∀ t', t' ≠ t → slot s' t' = slot s t'))

theorem LookupOk.hit {s s' : State} {t : Tgt} {mid : Nat} (hw : WF s) (h : Same s s') (hl : live s t = some mid)
    (hp : s'.b.pkg = .p0) (hr : s'.regs = s.regs) : LookupOk s t s' mid :=
  ⟨hw.same h, hp, h.inst, hr, by rw [h.next]; exact Nat.le_refl _, Or.inl ⟨hl, h⟩⟩

/-- second case of `hk`: the interface method's new mocker carries the context of the cached interface mocker, which is
    not cancelled -/
theorem LookupOk.alloc {s s' : State} {t : Tgt} {cx : Option Nat} (hw : WF s) (hl : live s t = none)
    (hm : s'.mks = upd s.mks s.next { tgt := t, ctx := cx }) (hn : s'.next = s.next + 1)
    (hst : slot s' t = some s.next) (hso : ∀ t', t' ≠ t → slot s' t' = slot s t')
    (hi : s'.inst = s.inst) (hr : s'.regs = s.regs) (hp : s'.b.pkg = .p0) (hi2 : s'.b.i2C = s.b.i2C)
    (hk : (cx = none ∧ s'.b.ifC = s.b.ifC ∧ s'.ctxc = s.ctxc) ∨
          (t = .im ∧ ∃ c, cx = some c ∧ s'.b.ifC = some (c, some s.next) ∧ s'.ctxc c = false)) :
    LookupOk s t s' s.next := by
  have new : s'.mks s.next = { tgt := t, ctx := cx } := by rw [hm, upd_same]
  have old : ∀ j, j ≠ s.next → s'.mks j = s.mks j := fun j hj => by rw [hm, upd_other _ _ _ _ hj]
  have cached : ∀ t' m, slot s' t' = some m →
      (t' = t ∧ m = s.next) ∨ (slot s t' = some m ∧ s'.mks m = s.mks m) := by
    intro t' m h
    by_cases e : t' = t
    · rw [e, hst] at h; exact Or.inl ⟨e, (Option.some.inj h).symm⟩
    · rw [hso t' e] at h; exact Or.inr ⟨h, old m (Nat.ne_of_lt (hw.slot_lt t' m h))⟩
  refine ⟨⟨fun t' m h => ?_, fun t' m h => ?_, fun t' m h hne => ?_, fun c inner h m hin => ?_, by rw [hi2]; exact hw.no_i2⟩,
    hp, hi, hr, by rw [hn]; exact Nat.le_succ _, Or.inr ⟨hl, rfl, old, by rw [new], by rw [new], by rw [new], hst, hso⟩⟩
  · rcases cached t' m h with ⟨_, rfl⟩ | ⟨h, _⟩
    · omega
    · have := hw.slot_lt t' m h; omega
  · rcases cached t' m h with ⟨rfl, rfl⟩ | ⟨h, e⟩
    · rw [new]
    · rw [e]; exact hw.slot_tgt t' m h
  · rcases cached t' m h with ⟨rfl, rfl⟩ | ⟨h, e⟩
    · rw [new]
      rcases hk with ⟨hcx, _⟩ | ⟨him, _⟩
      · exact hcx
      · exact absurd him hne
    · rw [e]; exact hw.slot_ctx t' m h hne
  · rcases hk with ⟨_, hif, hcc⟩ | ⟨_, c', hcx, hif, hcc⟩
    · rw [hif] at h
      have hsl : slot s .im = some m := by rw [slot_im, h]; exact hin
      rw [old m (Nat.ne_of_lt (hw.slot_lt _ m hsl)), hcc]
      exact hw.if_ctx c inner h m hin
    · rw [hif] at h; cases h; cases hin
      rw [new]; exact ⟨hcx, fun h => by rw [hcc] at h; cases h⟩

theorem ifaceLookup_cases (s : State) :
    (∃ c inner, s.b.ifC = some (c, inner) ∧ s.ctxc c = false ∧ ifaceLookup s = (reset2CurPkg s, c, inner)) ∨
    ((∀ c inner, s.b.ifC = some (c, inner) → s.ctxc c = true) ∧
      ifaceLookup s = (reset2CurPkg { s with ctxc := upd s.ctxc s.nctx false, nctx := s.nctx + 1,
                                             b := { s.b with ifC := some (s.nctx, none) } }, s.nctx, none)) := by
  unfold ifaceLookup
  cases hi : s.b.ifC with
  | none => exact Or.inr ⟨fun _ _ h => (by cases h), rfl⟩
  | some ci =>
    obtain ⟨c, inner⟩ := ci
    simp only []
    cases hc : s.ctxc c with
    | true => exact Or.inr ⟨fun _ _ h => (by cases h; exact hc), rfl⟩
    | false => exact Or.inl ⟨c, inner, rfl, hc, rfl⟩

/-- handles of the two-method interface variable (outside the theorems) -/
def isI2H : Handle → Bool
  | .i2 _ => true
  | _ => false

theorem lookup_ok (s : State) (hd : Handle) (hw : WF s) (hn : isI2H hd = false := by rfl) :
    LookupOk s (tgtOf s.b.pkg hd) (lookup s hd).1 (lookup s hd).2 := by
  cases hd with
  | i2 j => cases hn
  | fn i =>
    simp only [lookup]
    cases hl : liveOf s (s.b.fnC i) with
    | some mid => exact .hit hw (same_setPkg s .p0) hl rfl rfl
    | none =>
      refine .alloc hw hl rfl rfl (upd_same ..) (fun t' hne => ?_) rfl rfl rfl rfl (Or.inl ⟨rfl, rfl, rfl⟩)
      cases t' with
      | fn j => exact upd_other _ _ _ _ (fun e => hne (congrArg _ e))
      | _ => rfl
  | vr i =>
    simp only [lookup]
    cases hl : liveOf s (s.b.vrC i) with
    | some mid => exact .hit hw (same_setPkg s .p0) hl rfl rfl
    | none =>
      refine .alloc hw hl rfl rfl (upd_same ..) (fun t' hne => ?_) rfl rfl rfl rfl (Or.inl ⟨rfl, rfl, rfl⟩)
      cases t' with
      | vr j => exact upd_other _ _ _ _ (fun e => hne (congrArg _ e))
      | _ => rfl
  | xf n =>
    simp only [lookup]
    cases hl : liveOf s (s.b.xfC s.b.pkg n) with
    | some mid => exact .hit hw (same_setPkg s .p0) hl rfl rfl
    | none =>
      refine .alloc hw hl rfl rfl ?_ (fun t' hne => ?_) rfl rfl rfl rfl (Or.inl ⟨rfl, rfl, rfl⟩)
      · show upd s.b.xfC s.b.pkg _ s.b.pkg n = _
        rw [upd_same, upd_same]; rfl
      · cases t' with
        | xf p m =>
          show upd s.b.xfC s.b.pkg _ p m = s.b.xfC p m
          by_cases h : p = s.b.pkg
          · rw [h, upd_same]; exact upd_other _ _ _ _ (fun e => hne (by rw [h, e]; rfl))
          · rw [upd_other _ _ _ _ h]
        | _ => rfl
  | st i =>
    have hlv : live s (.st i) = liveOf (structLookup s) (stInner s i) := by rw [live, slot_st]; rfl
    simp only [lookup]
    cases hl : liveOf (structLookup s) (stInner s i) with
    | some mid => exact .hit hw (same_structLookup s) (hlv.trans hl) rfl rfl
    | none =>
      refine .alloc hw (hlv.trans hl) rfl rfl (upd_same ..) (fun t' hne => ?_) rfl rfl rfl rfl (Or.inl ⟨rfl, rfl, rfl⟩)
      cases t' with
      | st j => exact (upd_other _ _ _ _ (fun e => hne (congrArg _ e))).trans (slot_st s j).symm
      | _ => rfl
  | xs =>
    simp only [lookup]
    cases hl : liveOf (exportStructLookup s) (xsInner s s.b.pkg) with
    | some mid => exact .hit hw (same_exportStructLookup s) hl rfl rfl
    | none =>
      refine .alloc hw hl rfl rfl ?_ (fun t' hne => ?_) rfl rfl rfl rfl (Or.inl ⟨rfl, rfl, rfl⟩)
      · show (match upd _ s.b.pkg (some (some s.next)) s.b.pkg with | some c => c | none => none) = _
        rw [upd_same]
      · cases t' with
        | xs q =>
          have hq : q ≠ s.b.pkg := fun e => hne (congrArg _ e)
          show (match upd (upd s.b.xsC s.b.pkg _) s.b.pkg _ q with | some c => c | none => none) = _
          rw [upd_other _ _ _ _ hq, upd_other _ _ _ _ hq]; rfl
        | _ => rfl
  | im =>
    rcases ifaceLookup_cases s with ⟨c, inner, hi, hc, e⟩ | ⟨hc, e⟩
    · simp only [lookup, e]
      have hsl : slot s .im = inner := by rw [slot_im, hi]
      have hlv : live s .im = liveOf (reset2CurPkg s) inner := by rw [live, hsl]; rfl
      cases hl : liveOf (reset2CurPkg s) inner with
      | some mid => exact .hit hw (same_setPkg s .p0) (hlv.trans hl) rfl rfl
      | none =>
        refine .alloc hw (hlv.trans hl) rfl rfl rfl (fun t' hne => ?_) rfl rfl rfl rfl (Or.inr ⟨rfl, c, rfl, rfl, hc⟩)
        cases t' with
        | im => exact absurd rfl hne
        | _ => rfl
    · simp only [lookup, e]
      have hl : live s .im = none := by
        rw [live, liveOf_none, slot_im]
        intro m hm
        cases hi : s.b.ifC with
        | none => rw [hi] at hm; cases hm
        | some ci => rw [hi] at hm; exact (hw.if_ctx ci.1 ci.2 hi m hm).2 (hc ci.1 ci.2 hi)
      refine .alloc hw hl rfl rfl rfl (fun t' hne => ?_) rfl rfl rfl rfl (Or.inr ⟨rfl, s.nctx, rfl, rfl, upd_same ..⟩)
      cases t' with
      | im => exact absurd rfl hne
      | _ => rfl

/-- what `RegsOk` needs of a transition (`regsOk_frame`): registers unchanged, `next` does not go down, old mockers keep their target -/
structure Frame (s s' : State) : Prop where
  regs : s'.regs = s.regs
  next : s.next ≤ s'.next
  tgt : ∀ j, j < s.next → (s'.mks j).tgt = (s.mks j).tgt

theorem Frame.trans {s s' s'' : State} (f : Frame s s') (g : Frame s' s'') : Frame s s'' :=
  ⟨by rw [g.regs, f.regs], Nat.le_trans f.next g.next, fun j hj => by rw [g.tgt j (Nat.lt_of_lt_of_le hj f.next), f.tgt j hj]⟩

theorem frame_setInst (s : State) (t : Tgt) (i : Inst) : Frame s (setInst s t i) := ⟨rfl, Nat.le_refl _, fun _ _ => rfl⟩

theorem Same.frame {s s' : State} (h : Same s s') (hr : s'.regs = s.regs) : Frame s s' :=
  ⟨hr, Nat.le_of_eq h.next.symm, fun j _ => by rw [h.mks]⟩

theorem LookupOk.live {s s' : State} {t : Tgt} {mid : Nat} (h : LookupOk s t s' mid) : live s' t = some mid := by
  rcases h with ⟨_, _, _, _, _, ⟨hl, S⟩ | ⟨_, _, _, _, hcan, _, hst, _⟩⟩
  · exact (live_congr (S.slot t) fun _ _ => by rw [S.mks]).trans hl
  · exact live_some.mpr ⟨hst, hcan⟩

theorem lookup_R {s s1 : State} {a : Lww} {t : Tgt} {mid : Nat} (hw : WF s) (hr : R s a) (hl : LookupOk s t s1 mid) :
    R s1 { a with pkg := .p0 } ∧ live s1 t = some mid ∧ Frame s s1 := by
  have hlt := hl.live
  rcases hl with ⟨_, hpkg, hinst, hregs, hnext, ⟨_, S⟩ | ⟨hlive, hmid, hmk, hwhen, _, _, _, hso⟩⟩
  · exact ⟨hr.same S hpkg rfl, hlt, S.frame hregs⟩
  · refine ⟨hr.update (t := t) (mid := mid) (fun t' m _ h => by have := hw.slot_lt t' m h; omega)
      hso hmk (fun t' _ => by rw [hinst]) (fun _ _ => rfl) hpkg ?_
      (fun e => by rw [hinst]; exact hr.ph t e), hlt, hregs, hnext, fun j hj => by rw [hmk j (by omega)]⟩
    rw [rt_live hlt, hinst]
    exact Or.inr ⟨hwhen, Or.inl ((rt_dead hlive).mp (hr.tgt t))⟩

/-- what no instruction, call or Cancel touches -/
structure Untouched (s s' : State) : Prop where
  b : s'.b = s.b
  regs : s'.regs = s.regs
  next : s'.next = s.next
  obj : ∀ j, (s'.mks j).tgt = (s.mks j).tgt ∧ (s'.mks j).ctx = (s.mks j).ctx

theorem Untouched.refl (s : State) : Untouched s s := ⟨rfl, rfl, rfl, fun _ => ⟨rfl, rfl⟩⟩

theorem Untouched.trans {s s' s'' : State} (f : Untouched s s') (g : Untouched s' s'') : Untouched s s'' :=
  ⟨g.b.trans f.b, g.regs.trans f.regs, g.next.trans f.next, fun j => ⟨(g.obj j).1.trans (f.obj j).1, (g.obj j).2.trans (f.obj j).2⟩⟩

theorem Untouched.frame {s s' : State} (h : Untouched s s') : Frame s s' :=
  ⟨h.regs, Nat.le_of_eq h.next.symm, fun j _ => (h.obj j).1⟩

theorem untouched_set (s : State) (mid : Nat) (w : Option When) (g cn : Bool) (i' : Tgt → Inst) :
    Untouched s { s with mks := upd s.mks mid { s.mks mid with when := w, guard := g, canceled := cn }, inst := i' } := by
  refine ⟨rfl, rfl, rfl, fun j => ?_⟩
  show (upd s.mks mid _ j).tgt = _ ∧ (upd s.mks mid _ j).ctx = _
  by_cases e : j = mid
  · rw [e, upd_same]; exact ⟨rfl, rfl⟩
  · rw [upd_other _ _ _ _ e]; exact ⟨rfl, rfl⟩

theorem WF.of_mks {s s' : State} (hw : WF s) (hu : Untouched s s')
    (hc : ∀ c m, s.b.ifC = some (c, some m) → s'.ctxc c = true → (s'.mks m).canceled = true) : WF s' :=
  ⟨fun t m e => by rw [hu.next]; exact hw.slot_lt t m (by rw [← slot_of_b hu.b]; exact e),
   fun t m e => by rw [(hu.obj m).1]; exact hw.slot_tgt t m (by rw [← slot_of_b hu.b]; exact e),
   fun t m e => by rw [(hu.obj m).2]; exact hw.slot_ctx t m (by rw [← slot_of_b hu.b]; exact e),
   fun c inner e m hi => by
     rw [hu.b] at e; subst hi
     exact ⟨by rw [(hu.obj m).2]; exact (hw.if_ctx c _ e m rfl).1, hc c m e⟩,
   by rw [hu.b]; exact hw.no_i2⟩

/-- the three clauses of `hrt` are the three shapes `Rt` allows at a live target -/
theorem set_sim {s : State} {a : Lww} {t : Tgt} {mid : Nat} (hw : WF s) (hr : R s a) (hl : live s t = some mid)
    (m' : Mocker) (i' : Tgt → Inst) {b' : Beh} (hio : ∀ t', t' ≠ t → i' t' = s.inst t')
    (ht : m'.tgt = (s.mks mid).tgt) (hc : m'.ctx = (s.mks mid).ctx) (hcan : m'.canceled = false)
    (hrt : (∃ w, m'.when = some w ∧ i' t = .via mid ∧ b' = .stub w ∧ m'.guard = true) ∨
      (m'.when = none ∧ ((i' t = .orig ∧ b' = .orig) ∨ ∃ k, i' t = .cb k ∧ b' = .cb k ∧ m'.guard = true)))
    (hph : isPhantom t = true → i' t = .orig ∧ b' = .orig) :
    WF { s with mks := upd s.mks mid m', inst := i' } ∧
    R { s with mks := upd s.mks mid m', inst := i' } { a with beh := upd a.beh t b' } := by
  obtain ⟨hs, hlive⟩ := live_some.mp hl
  have hl' : live { s with mks := upd s.mks mid m', inst := i' } t = some mid :=
    live_some.mpr ⟨hs, by simp only [upd_same]; exact hcan⟩
  have hu : Untouched s { s with mks := upd s.mks mid m', inst := i' } := by
    obtain ⟨_, _, w, cn, g⟩ := m'; cases ht; cases hc; exact untouched_set s mid w g cn i'
  refine ⟨hw.of_mks hu (fun c m e h => ?_),
    hr.update (hw.other_mid hs) (fun _ _ => rfl) (fun j e => upd_other _ _ _ _ e) hio (fun t' e => upd_other _ _ _ _ e)
      hr.pkg ?_ (fun e => ?_)⟩
  · -- the context of the interface method's mocker is cancelled only if that mocker is, and then it is not `mid`
    have := (hw.if_ctx c _ e m rfl).2 h
    have hne : m ≠ mid := fun e' => by rw [e', hlive] at this; cases this
    simp only [upd_other _ _ _ _ hne]; exact this
  · rw [rt_live hl']; simp only [upd_same]; exact hrt
  · simp only [upd_same]; exact hph e

theorem applyCb_real {s : State} {mid : Nat} (k : Nat) (h : isPhantom (s.mks mid).tgt = false) :
    applyCb fixed s mid k = (setInst (setM s mid { s.mks mid with guard := true, canceled := false, when := none }) (s.mks mid).tgt (.cb k), none) := by
  simp [applyCb, h, fixed]

theorem stubI_real {s : State} {mid : Nat} (st : Stub) (h : isPhantom (s.mks mid).tgt = false) (hv : isVar (s.mks mid).tgt = false) :
    stubI s mid st = match (s.mks mid).when with
      | some w => (setM s mid { s.mks mid with when := some (w.step st) }, none)
      | none => (setInst (setM s mid { s.mks mid with when := some (When.fresh st), guard := true, canceled := false }) (s.mks mid).tgt (.via mid), none) := by
  simp only [stubI, h, hv, Bool.false_eq_true, if_false]
  cases (s.mks mid).when <;> rfl

theorem cancelM_mks (s : State) (mid : Nat) :
    (cancelM s mid).b = s.b ∧ (cancelM s mid).next = s.next ∧ (cancelM s mid).regs = s.regs ∧
    (cancelM s mid).mks = upd s.mks mid { s.mks mid with when := none, canceled := true } := by
  simp only [cancelM]
  cases (s.mks mid).guard with
  | false => exact ⟨rfl, rfl, rfl, rfl⟩
  | true =>
    cases (s.mks mid).ctx with
    | none => exact ⟨rfl, rfl, rfl, rfl⟩
    | some c => cases isI2 (s.mks mid).tgt <;> exact ⟨rfl, rfl, rfl, rfl⟩

theorem untouched_cancelM (s : State) (mid : Nat) : Untouched s (cancelM s mid) := by
  obtain ⟨hb, hn, hr, hm⟩ := cancelM_mks s mid
  refine ⟨hb, hr, hn, fun j => ?_⟩
  rw [hm]; exact (untouched_set s mid none _ true s.inst).obj j

theorem cancelM_canceled (s : State) (mid j : Nat) :
    ((cancelM s mid).mks j).canceled = true ↔ j = mid ∨ (s.mks j).canceled = true := by
  rw [(cancelM_mks s mid).2.2.2]
  by_cases e : j = mid
  · rw [e, upd_same]; simp
  · rw [upd_other _ _ _ _ e]; simp [e]

/-- `Cancel` through the mocker cached for `t`: its guard, if set, restores `t` (for the interface method, and only for
    it, by cancelling the mocker's context) -/
theorem cancelM_cached {s : State} {t : Tgt} {mid : Nat} (hw : WF s) (hs : slot s t = some mid) :
    (∀ t', (cancelM s mid).inst t' = if (s.mks mid).guard = true ∧ t' = t then .orig else s.inst t') ∧
    (∀ c, (cancelM s mid).ctxc c = true → s.ctxc c = true ∨ t = .im) := by
  have htg := hw.slot_tgt t mid hs
  simp only [cancelM]
  cases hg : (s.mks mid).guard with
  | false => exact ⟨fun t' => by simp [setM], fun c h => Or.inl h⟩
  | true =>
    cases hc : (s.mks mid).ctx with
    | none => exact ⟨fun t' => by simp [setM, setInst, upd, htg], fun c h => Or.inl h⟩
    | some c0 =>
      have him : t = .im := Classical.byContradiction fun e => by rw [hw.slot_ctx t mid hs e] at hc; cases hc
      have htm : (s.mks mid).tgt = .im := htg.trans him
      refine ⟨fun t' => by simp [setM, setInst, upd, him, htm, isI2], fun c h => ?_⟩
      by_cases e : c = c0
      · exact Or.inr him
      · refine Or.inl ?_
        simpa [setM, setInst, upd, htm, isI2, e] using h

theorem cancel_sim {s : State} {a : Lww} {t : Tgt} {mid : Nat} (hw : WF s) (hr : R s a) (hs : slot s t = some mid) :
    WF (cancelM s mid) ∧ R (cancelM s mid) { a with beh := upd a.beh t .orig } := by
  have hb := (untouched_cancelM s mid).b
  have hm := (cancelM_mks s mid).2.2.2
  obtain ⟨hinst, hcc⟩ := cancelM_cached hw hs
  have hdead : live (cancelM s mid) t = none := by
    rw [live, liveOf_none, slot_of_b hb, hs]
    intro m e; cases e; exact (cancelM_canceled s mid mid).mpr (Or.inl rfl)
  have horig : (cancelM s mid).inst t = .orig := by
    rw [hinst]
    cases hg : (s.mks mid).guard with
    | true => rw [if_pos ⟨rfl, rfl⟩]
    | false =>
      -- nothing was installed through a mocker whose guard is not set
      rw [if_neg (fun h => by cases h.1)]
      cases hl : live s t with
      | none => exact ((rt_dead hl).mp (hr.tgt t)).1
      | some m =>
        obtain rfl : mid = m := Option.some.inj (hs.symm.trans (live_some.mp hl).1)
        rcases (rt_live hl).mp (hr.tgt t) with ⟨_, _, _, _, h⟩ | ⟨_, h | ⟨_, _, _, h⟩⟩
        · rw [hg] at h; cases h
        · exact h.1
        · rw [hg] at h; cases h
  refine ⟨hw.of_mks (untouched_cancelM s mid) (fun c m e h => ?_),
    hr.update (hw.other_mid hs) (fun t' _ => slot_of_b hb t') (fun j e => by rw [hm, upd_other _ _ _ _ e])
      (fun t' e => by rw [hinst, if_neg (fun h => e h.2)]) (fun t' e => upd_other _ _ _ _ e) (by rw [hb]; exact hr.pkg)
      ((rt_dead hdead).mpr ⟨horig, upd_same ..⟩) (fun _ => ⟨horig, upd_same ..⟩)⟩
  rw [cancelM_canceled]
  rcases hcc c h with h | him
  · exact Or.inr ((hw.if_ctx c _ e m rfl).2 h)
  · rw [him, slot_im, e] at hs
    exact Or.inl (Option.some.inj hs)

theorem onTgt_look (a : Lww) (t : Tgt) : Lww.onTgt a t .look = a := by
  have : upd a.beh t (a.beh t) = a.beh := funext fun x => by
    by_cases e : x = t
    · rw [e, upd_same]
    · rw [upd_other _ _ _ _ e]
  show ({ a with beh := upd a.beh t (a.beh t) } : Lww) = a
  rw [this]

theorem instr_sim {s : State} {a : Lww} {t : Tgt} {mid : Nat} (hw : WF s) (hr : R s a) (hl : live s t = some mid) (ins : Instr) :
    WF (instr fixed s mid ins).1 ∧ R (instr fixed s mid ins).1 (Lww.onTgt a t ins) := by
  obtain ⟨hs, hcan⟩ := live_some.mp hl
  have hmt : (s.mks mid).tgt = t := hw.slot_tgt t mid hs
  cases ins with
  | look => rw [onTgt_look]; exact ⟨hw, hr⟩
  | cancel => exact cancel_sim hw hr hs
  | apply k =>
    cases hp : isPhantom t with
    | true => simp only [Lww.onTgt, Lww.rejected, hp, if_true, instr, applyCb, hmt]; exact ⟨hw, hr⟩
    | false =>
      simp only [Lww.onTgt, Lww.rejected, hp, Bool.false_eq_true, if_false, instr, Lww.instr]
      rw [applyCb_real k (by rw [hmt]; exact hp), hmt]
      exact set_sim hw hr hl { s.mks mid with guard := true, canceled := false, when := none } (upd s.inst t (.cb k))
        (fun t' e => upd_other _ _ _ _ e) rfl rfl rfl (Or.inr ⟨rfl, Or.inr ⟨k, upd_same .., rfl, rfl⟩⟩)
        (fun h => by rw [hp] at h; cases h)
  | stub st =>
    cases hp : isPhantom t with
    | true => simp only [Lww.onTgt, Lww.rejected, hp, Bool.true_or, if_true, instr, stubI, hmt]; exact ⟨hw, hr⟩
    | false =>
      cases hv : isVar t with
      | true =>
        simp only [Lww.onTgt, Lww.rejected, hp, hv, Bool.or_true, if_true, instr, stubI, hmt, Bool.false_eq_true, if_false]
        exact ⟨hw, hr⟩
      | false =>
        simp only [Lww.onTgt, Lww.rejected, hp, hv, Bool.or_false, Bool.false_eq_true, if_false, instr]
        rw [stubI_real st (by rw [hmt]; exact hp) (by rw [hmt]; exact hv), hmt]
        have hph : ∀ {P : Prop}, isPhantom t = true → P := fun h => by rw [hp] at h; cases h
        rcases (rt_live hl).mp (hr.tgt t) with ⟨w, hwn, hi, hb, hg⟩ | ⟨hwn, h⟩
        · -- the mocker owns a When: the instruction continues it on both sides
          rw [hwn, hb]
          exact set_sim hw hr hl { s.mks mid with when := some (w.step st) } s.inst (fun _ _ => rfl) rfl rfl hcan
            (Or.inl ⟨_, rfl, hi, rfl, hg⟩) hph
        · -- no When (original or callback in force): a fresh one is created and installed on both sides
          have hb : Lww.instr (a.beh t) (.stub st) = .stub (When.fresh st) := by
            rcases h with ⟨_, hb⟩ | ⟨k, _, hb, _⟩ <;> rw [hb] <;> rfl
          rw [hwn, hb]
          exact set_sim hw hr hl { s.mks mid with when := some (When.fresh st), guard := true, canceled := false }
            (upd s.inst t (.via mid)) (fun t' e => upd_other _ _ _ _ e) rfl rfl rfl (Or.inl ⟨_, rfl, upd_same .., rfl, rfl⟩) hph

/-- the targets whose cache slots `cachedMids` collects, in its order -/
def allTgts : List Tgt :=
  [.fn false, .fn true] ++ (allPkgs.flatMap fun p => allNames.map fun n => .xf p n)
    ++ [.st false, .st true, .im, .xs .p0, .xs .p1, .xs .pq, .vr false, .vr true, .i2 false, .i2 true]

theorem mem_allTgts (t : Tgt) : t ∈ allTgts := by
  cases t with
  | fn i | st i | vr i | i2 i => cases i <;> decide +kernel
  | im => decide +kernel
  | xs p => cases p <;> decide +kernel
  | xf p n => cases p <;> cases n <;> decide +kernel

theorem mem_cachedMids {s : State} {mid : Nat} : mid ∈ cachedMids s ↔ ∃ t, slot s t = some mid := by
  rw [show cachedMids s = (allTgts.map (slot s)).filterMap id from rfl]
  simp only [List.mem_filterMap, List.mem_map, id]
  constructor
  · rintro ⟨_, ⟨t, _, rfl⟩, h⟩; exact ⟨t, h⟩
  · rintro ⟨t, h⟩; exact ⟨_, ⟨t, mem_allTgts t, rfl⟩, h⟩

theorem cancel_all (l : List Nat) : ∀ (s : State) (a : Lww), WF s → R s a → (∀ m ∈ l, ∃ t, slot s t = some m) →
    ∃ a', WF (l.foldl cancelM s) ∧ R (l.foldl cancelM s) a' ∧ Untouched s (l.foldl cancelM s) ∧
      ∀ j, (s.mks j).canceled = true ∨ j ∈ l → ((l.foldl cancelM s).mks j).canceled = true := by
  induction l with
  | nil => intro s a hw hr _; exact ⟨a, hw, hr, .refl s, fun j h => h.resolve_right List.not_mem_nil⟩
  | cons mid rest ih =>
    intro s a hw hr hc
    obtain ⟨t, ht⟩ := hc mid List.mem_cons_self
    obtain ⟨hw1, hr1⟩ := cancel_sim hw hr ht
    have hu := untouched_cancelM s mid
    obtain ⟨a', h1, h2, h3, h4⟩ := ih (cancelM s mid) _ hw1 hr1 (fun m hm => by
      obtain ⟨t', ht'⟩ := hc m (List.mem_cons_of_mem _ hm); exact ⟨t', by rw [slot_of_b hu.b]; exact ht'⟩)
    refine ⟨a', h1, h2, hu.trans h3, fun j hj => h4 j ?_⟩
    rw [cancelM_canceled]
    rcases hj with hj | hj
    · exact Or.inl (Or.inr hj)
    · exact (List.mem_cons.mp hj).imp Or.inl id

/-- `Reset` cancels every cached mocker, so no target has a live mocker any more and everything is original -/
theorem reset_sim {s : State} {a : Lww} (hw : WF s) (hr : R s a) :
    WF (resetB s) ∧ R (resetB s) { a with beh := fun _ => .orig } ∧ (∀ t, live (resetB s) t = none) ∧
    Untouched s (resetB s) := by
  obtain ⟨a', hw', hr', hu, hcan⟩ := cancel_all (cachedMids s) s a hw hr (fun m hm => mem_cachedMids.mp hm)
  have hdead : ∀ t, live (resetB s) t = none := fun t => by
    rw [live, liveOf_none]
    exact fun m hm => hcan m (Or.inr (mem_cachedMids.mpr ⟨t, by rw [← slot_of_b hu.b]; exact hm⟩))
  have horig : ∀ t, (resetB s).inst t = .orig := fun t => ((rt_dead (hdead t)).mp (hr'.tgt t)).1
  exact ⟨hw', ⟨(congrArg Builder.pkg hu.b).trans hr.pkg, fun t => (rt_dead (hdead t)).mpr ⟨horig t, rfl⟩,
    fun t _ => ⟨horig t, rfl⟩⟩, hdead, hu⟩

theorem call_orig {s : State} {t : Tgt} (x : Nat) (h : s.inst t = .orig) (h2 : ∀ j, s.inst (.i2 j) = .orig) : call s t x = (s, .o) := by
  cases t <;> simp [call, h, h2]
theorem call_cb {s : State} {t : Tgt} {k : Nat} (x : Nat) (h : s.inst t = .cb k) : call s t x = (s, .k k) := by simp [call, h]
theorem call_via {s : State} {t : Tgt} {mid : Nat} {w : When} (x : Nat) (h : s.inst t = .via mid) (hc : (s.mks mid).canceled = false)
    (hw : (s.mks mid).when = some w) :
    call s t x = (setM s mid { s.mks mid with when := some (w.invoke x).1 }, (w.invoke x).2) := by
  simp [call, h, hc, hw]
theorem lcall_orig {a : Lww} {t : Tgt} (x : Nat) (h : a.beh t = .orig) (h2 : ∀ j, a.beh (.i2 j) = .orig) : a.call t x = (a, .o) := by
  cases t <;> simp [Lww.call, h, h2]
theorem lcall_cb {a : Lww} {t : Tgt} {k : Nat} (x : Nat) (h : a.beh t = .cb k) : a.call t x = (a, .k k) := by simp [Lww.call, h]
theorem lcall_stub {a : Lww} {t : Tgt} {w : When} (x : Nat) (h : a.beh t = .stub w) :
    a.call t x = ({ a with beh := upd a.beh t (.stub (w.invoke x).1) }, (w.invoke x).2) := by simp [Lww.call, h]

theorem lstep_h_pkg (a : Lww) (hd : Handle) (ins : Instr) : (a.step (.h hd ins)).pkg = .p0 := by
  simp only [Lww.step, Lww.onTgt]; split <;> rfl

theorem lstep_h_beh (a : Lww) (hd : Handle) (ins : Instr) {p : Pkg} (hp : a.pkg = p) (h : Lww.rejected (tgtOf p hd) ins = false) :
    (a.step (.h hd ins)).beh (tgtOf p hd) = Lww.instr (a.beh (tgtOf p hd)) ins := by
  subst hp; simp only [Lww.step, Lww.onTgt, h]; exact upd_same ..

theorem call_sim {s : State} {a : Lww} (hw : WF s) (hr : R s a) (t : Tgt) (x : Nat) :
    (call s t x).2 = (a.call t x).2 ∧ WF (call s t x).1 ∧ R (call s t x).1 (a.call t x).1 ∧ Untouched s (call s t x).1 := by
  have hi2 : ∀ j, s.inst (.i2 j) = .orig ∧ a.beh (.i2 j) = .orig := fun j =>
    (rt_dead (by rw [live, slot_i2_none hw]; rfl)).mp (hr.tgt (.i2 j))
  have horig : s.inst t = .orig → a.beh t = .orig → (call s t x).2 = (a.call t x).2 ∧ WF (call s t x).1 ∧
      R (call s t x).1 (a.call t x).1 ∧ Untouched s (call s t x).1 := fun h1 h2 => by
    rw [call_orig x h1 (fun j => (hi2 j).1), lcall_orig x h2 (fun j => (hi2 j).2)]; exact ⟨rfl, hw, hr, .refl s⟩
  cases hl : live s t with
  | none => exact horig ((rt_dead hl).mp (hr.tgt t)).1 ((rt_dead hl).mp (hr.tgt t)).2
  | some mid =>
    rcases (rt_live hl).mp (hr.tgt t) with ⟨w, hwn, hi, hb, hg⟩ | ⟨hwn, ⟨h1, h2⟩ | ⟨k, h1, h2, _⟩⟩
    · -- the stub's cursor advances in the mocker's When and in the reference alike
      rw [call_via x hi (live_some.mp hl).2 hwn, lcall_stub x hb]
      have := set_sim hw hr hl { s.mks mid with when := some (w.invoke x).1 } s.inst (fun _ _ => rfl) rfl rfl
        (live_some.mp hl).2 (Or.inl ⟨_, rfl, hi, rfl, hg⟩) (fun e => by have := (hr.ph t e).1; rw [hi] at this; cases this)
      exact ⟨rfl, this.1, this.2, untouched_set ..⟩
    · exact horig h1 h2
    · rw [call_cb x h1, lcall_cb x h2]; exact ⟨rfl, hw, hr, .refl s⟩

theorem untouched_instr (v : Variant) (s : State) (mid : Nat) (ins : Instr) : Untouched s (instr v s mid ins).1 := by
  cases ins with
  | look => exact .refl s
  | cancel => exact untouched_cancelM s mid
  | apply k =>
    simp only [instr, applyCb]; split
    · exact .refl s
    · exact untouched_set ..
  | stub st =>
    simp only [instr, stubI]; split
    · exact .refl s
    · split
      · exact .refl s
      · split
        · exact untouched_set ..
        · exact untouched_set ..

theorem instr_pkg (v : Variant) (s : State) (mid : Nat) (ins : Instr) : (instr v s mid ins).1.b.pkg = s.b.pkg :=
  congrArg Builder.pkg (untouched_instr v s mid ins).b

/-- the ops that go through a kept handle (`on r ins`); every other op looks up its own handle -/
def isOn : Op → Bool
  | .on _ _ => true
  | _ => false

def opI2 : Op → Bool
  | .h hd _ => isI2H hd
  | .keep _ hd => isI2H hd
  | _ => false

/-- the reference knows, for every register, the target of the object it holds -/
def RegsOk (s : State) (a : Lww) : Prop :=
  ∀ r, match s.regs r with
    | some mid => mid < s.next ∧ a.regs r = some (s.mks mid).tgt
    | none => a.regs r = none

theorem regsOk_frame {s s' : State} {a a' : Lww} (h : RegsOk s a) (f : Frame s s') (ha : a'.regs = a.regs) : RegsOk s' a' := by
  intro r
  have := h r
  rw [f.regs, ha]
  cases hr : s.regs r with
  | none => rw [hr] at this; exact this
  | some mid =>
    rw [hr] at this
    exact ⟨Nat.lt_of_lt_of_le this.1 f.next, by rw [f.tgt mid this.1]; exact this.2⟩

theorem lww_call_regs (a : Lww) (t : Tgt) (x : Nat) : (a.call t x).1.regs = a.regs := by
  unfold Lww.call; (repeat' split) <;> rfl

theorem lww_onTgt_regs (a : Lww) (t : Tgt) (ins : Instr) : (Lww.onTgt a t ins).regs = a.regs := by
  unfold Lww.onTgt; split <;> rfl

/-- the instruction of `op` goes through a handle that is the live mocker of its target (trivially true for every op
    that looks up its own handle and for `look`), and `op` does not address the two-method interface variable -/
def opLive (s : State) : Op → Bool
  | .on r ins =>
    match ins, s.regs r with
    | .look, _ => true
    | _, none => true
    | _, some mid => decide (live s (s.mks mid).tgt = some mid)
  | op => !opI2 op

def histLive (v : Variant) (s : State) (ops : List Op) : Bool :=
  (ops.foldl (fun (acc : State × Bool) op => ((observe (step v acc.1 op).1).1, acc.2 && opLive acc.1 op)) (s, true)).2

theorem opLive_of_not_on (s : State) {op : Op} (h1 : isOn op = false) (h2 : opI2 op = false) : opLive s op = true := by
  cases op with
  | on r ins => cases h1
  | _ => simp only [opLive, h2, Bool.not_false]

theorem step_h_fst (v : Variant) (s : State) (hd : Handle) (ins : Instr) :
    (step v s (.h hd ins)).1 = (instr v (lookup s hd).1 (lookup s hd).2 ins).1 := by
  simp only [step]; split <;> simp_all

theorem step_on_fst (v : Variant) (s : State) (r mid : Nat) (ins : Instr) (h : s.regs r = some mid) :
    (step v s (.on r ins)).1 = (instr v s mid ins).1 := by
  simp only [step, h]; split <;> simp_all


/-- `hon`: an instruction through a kept handle needs what the reference knows of the registers, and a handle that is
    still live -/
theorem step_sim {s : State} {a : Lww} (hw : WF s) (hr : R s a) (op : Op)
    (hon : isOn op = false ∨ RegsOk s a ∧ opLive s op = true) (hi2 : opI2 op = false := by rfl) :
    WF (step fixed s op).1 ∧ R (step fixed s op).1 (a.step op) ∧
    (RegsOk s a → RegsOk (step fixed s op).1 (a.step op)) := by
  cases op with
  | pkg p =>
    have S := same_setPkg s p
    exact ⟨hw.same S, hr.same S rfl rfl, fun hg => regsOk_frame hg (S.frame rfl) rfl⟩
  | reset =>
    obtain ⟨hw', hr', _, hu⟩ := reset_sim hw hr
    exact ⟨hw', hr', fun hg => regsOk_frame hg hu.frame rfl⟩
  | xfEmpty => exact ⟨hw, hr, id⟩
  | stBad =>
    have S := same_structLookup s
    exact ⟨hw.same S, hr.same S rfl rfl, fun hg => regsOk_frame hg (S.frame rfl) rfl⟩
  | qlook =>
    have lk := lookup_ok s (.fn false) hw
    obtain ⟨hr1, _, f⟩ := lookup_R hw hr lk
    have S := same_setPkg (lookup s (.fn false)).1 .pq
    exact ⟨lk.1.same S, hr1.same S rfl rfl, fun hg => regsOk_frame hg (f.trans (S.frame rfl)) rfl⟩
  | h hd ins =>
    have lk := lookup_ok s hd hw hi2
    obtain ⟨hr1, hl1, f⟩ := lookup_R hw hr lk
    rw [step_h_fst]
    show _ ∧ R _ (Lww.onTgt { a with pkg := .p0 } (tgtOf a.pkg hd) ins) ∧ _
    rw [← hr.pkg]
    obtain ⟨hw2, hr2⟩ := instr_sim lk.1 hr1 hl1 ins
    exact ⟨hw2, hr2, fun hg => regsOk_frame hg (f.trans (untouched_instr ..).frame) (lww_onTgt_regs ..)⟩
  | keep r hd =>
    have lk := lookup_ok s hd hw hi2
    obtain ⟨hr1, hl1, f⟩ := lookup_R hw hr lk
    have S : Same (lookup s hd).1 (step fixed s (.keep r hd)).1 := ⟨rfl, rfl, rfl, rfl, fun _ => rfl, rfl, rfl⟩
    refine ⟨lk.1.same S, hr1.same S lk.2.1 rfl, fun hg r' => ?_⟩
    -- the register written holds the mocker just looked up, which is cached for the handle's target
    have hsl := (live_some.mp hl1).1
    show match upd (lookup s hd).1.regs r (some (lookup s hd).2) r' with
      | some mid => mid < (lookup s hd).1.next ∧ upd a.regs r (some (tgtOf a.pkg hd)) r' = some ((lookup s hd).1.mks mid).tgt
      | none => upd a.regs r (some (tgtOf a.pkg hd)) r' = none
    by_cases e : r' = r
    · rw [e, upd_same, upd_same]
      exact ⟨lk.1.slot_lt _ _ hsl, by rw [lk.1.slot_tgt _ _ hsl, hr.pkg]⟩
    · rw [upd_other _ _ _ _ e, upd_other _ _ _ _ e]
      exact regsOk_frame hg f rfl r'
  | on r ins =>
    obtain ⟨hg, hl⟩ := hon.resolve_left Bool.noConfusion
    have hgr := hg r
    cases hreg : s.regs r with
    | none =>
      rw [hreg] at hgr
      simp only [step, Lww.step, hreg, hgr]; exact ⟨hw, hr, id⟩
    | some mid =>
      rw [hreg] at hgr
      rw [step_on_fst _ _ _ _ _ hreg]
      simp only [Lww.step, hgr.2]
      have sim : WF (instr fixed s mid ins).1 ∧ R (instr fixed s mid ins).1 (Lww.onTgt a (s.mks mid).tgt ins) := by
        cases ins with
        | look => rw [onTgt_look]; exact ⟨hw, hr⟩
        | apply k | stub st | cancel => exact instr_sim hw hr (by simpa [opLive, hreg] using hl) _
      exact ⟨sim.1, sim.2, fun hg => regsOk_frame hg (untouched_instr ..).frame (lww_onTgt_regs ..)⟩

def behRows (rs : List (StepRes × List Res)) : List (List Res) := rs.map (·.2)

theorem run_cons (v : Variant) (s : State) (op : Op) (ops : List Op) :
    run v s (op :: ops) = ((step v s op).2, (observe (step v s op).1).2) :: run v (observe (step v s op).1).1 ops := by simp only [run]
theorem lrun_cons (a : Lww) (op : Op) (ops : List Op) :
    Lww.run a (op :: ops) = ((a.step op).observe).2 :: Lww.run ((a.step op).observe).1 ops := by simp only [Lww.run]

def exec (v : Variant) (s : State) (ops : List Op) : State :=
  ops.foldl (fun s op => (observe (step v s op).1).1) s

def Lww.exec (a : Lww) (ops : List Op) : Lww :=
  ops.foldl (fun a op => ((a.step op).observe).1) a

structure Inv (s : State) (a : Lww) : Prop where
  wf : WF s
  r : R s a
  regs : RegsOk s a

theorem step_inv {s : State} {a : Lww} (h : Inv s a) (op : Op) (hl : opLive s op = true) :
    Inv (step fixed s op).1 (a.step op) := by
  have hi2 : opI2 op = false := by
    cases op with
    | on r ins => rfl
    | _ => simpa [opLive] using hl
  obtain ⟨hw', hr', hg'⟩ := step_sim h.wf h.r op (Or.inr ⟨h.regs, hl⟩) hi2
  exact ⟨hw', hr', hg' h.regs⟩

theorem call_inv {s : State} {a : Lww} (h : Inv s a) (t : Tgt) (x : Nat) :
    (call s t x).2 = (a.call t x).2 ∧ Inv (call s t x).1 (a.call t x).1 :=
  have ⟨ho, hw, hr, hu⟩ := call_sim h.wf h.r t x
  ⟨ho, hw, hr, regsOk_frame h.regs hu.frame (lww_call_regs a t x)⟩

/-- one observation call, as `observe` folds it -/
def obsStep (acc : State × List Res) (ta : Tgt × Nat) : State × List Res :=
  ((call acc.1 ta.1 ta.2).1, acc.2 ++ [(call acc.1 ta.1 ta.2).2])

def Lww.obsStep (acc : Lww × List Res) (ta : Tgt × Nat) : Lww × List Res :=
  ((Lww.call acc.1 ta.1 ta.2).1, acc.2 ++ [(Lww.call acc.1 ta.1 ta.2).2])

theorem observe_inv {s : State} {a : Lww} (h : Inv s a) :
    (observe s).2 = (a.observe).2 ∧ Inv (observe s).1 (a.observe).1 := by
  have key : ∀ (l : List (Tgt × Nat)) (s : State) (a : Lww) (acc : List Res), Inv s a →
      (l.foldl obsStep (s, acc)).2 = (l.foldl Lww.obsStep (a, acc)).2 ∧
      Inv (l.foldl obsStep (s, acc)).1 (l.foldl Lww.obsStep (a, acc)).1 := by
    intro l
    induction l with
    | nil => intro s a acc h; exact ⟨rfl, h⟩
    | cons ta rest ih =>
      intro s a acc h
      obtain ⟨h1, h2⟩ := call_inv h ta.1 ta.2
      simp only [List.foldl_cons, obsStep, Lww.obsStep]
      rw [h1]
      exact ih _ _ _ h2
  exact key obsCalls s a [] h

theorem histLive_cons (v : Variant) (s : State) (op : Op) (ops : List Op) :
    histLive v s (op :: ops) = (opLive s op && histLive v (observe (step v s op).1).1 ops) := by
  unfold histLive
  simp only [List.foldl_cons, Bool.true_and]
  generalize (observe (step v s op).1).1 = s1
  cases hb : opLive s op with
  | true => rfl
  | false =>
    simp only [Bool.false_and]
    have : ∀ (l : List Op) (st : State), (l.foldl (fun (acc : State × Bool) op => ((observe (step v acc.1 op).1).1, acc.2 && opLive acc.1 op)) (st, false)).2 = false := by
      intro l; induction l with
      | nil => intro st; rfl
      | cons o rest ih => intro st; simp only [List.foldl_cons, Bool.false_and]; exact ih _
    exact this ops s1

theorem hist_sim (ops : List Op) : ∀ (s : State) (a : Lww), Inv s a → histLive fixed s ops = true →
    behRows (run fixed s ops) = Lww.run a ops ∧ Inv (exec fixed s ops) (Lww.exec a ops) := by
  induction ops with
  | nil => intro s a h _; exact ⟨rfl, h⟩
  | cons op rest ih =>
    intro s a hinv hl
    rw [histLive_cons, Bool.and_eq_true] at hl
    obtain ⟨ho, h2⟩ := observe_inv (step_inv hinv op hl.1)
    obtain ⟨hrun, hexec⟩ := ih _ _ h2 hl.2
    have e1 : exec fixed s (op :: rest) = exec fixed (observe (step fixed s op).1).1 rest := List.foldl_cons ..
    have e2 : Lww.exec a (op :: rest) = Lww.exec ((a.step op).observe).1 rest := List.foldl_cons ..
    rw [e1, e2, run_cons, lrun_cons, behRows, List.map_cons, ← ho]
    refine ⟨?_, hexec⟩
    show _ :: behRows _ = _
    rw [hrun]

theorem inv_initP (p : Pkg) : Inv (initP p) (Lww.initP p) := by
  have hs : ∀ t, slot (initP p) t = none := fun t => by cases t <;> rfl
  refine ⟨⟨fun t m h => ?_, fun t m h => ?_, fun t m h => ?_, fun c inner h => (by cases h), rfl⟩,
    ⟨rfl, fun t => (rt_dead (by rw [live, hs]; rfl)).mpr ⟨rfl, rfl⟩, fun t _ => ⟨rfl, rfl⟩⟩, fun r => rfl⟩
  all_goals rw [hs] at h; cases h

theorem wf_init : WF init := (inv_initP .p0).wf

theorem r_init : R init Lww.init := (inv_initP .p0).r

end C12M
