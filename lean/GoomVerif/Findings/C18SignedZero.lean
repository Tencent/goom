import GoomVerif.Props.C18
/-! Known finding `C18-signed-zero`: two numbers are compared through their `%v` text (the number/number step of `equal`, arg/equals.go), so `Equals(0.0)`
    rejects `-0.0` although Go's `0.0 == -0.0` is true.  `Ordinary` excludes the pair; without that hypothesis the
    specification fails at this witness.  Not an obligation. -/
namespace C18.Findings
open C18M C18L

theorem signed_zero_counterexample :
    equal (some (.flt "float64" true 0 "0")) (some (.flt "float64" true (2^63) "-0")) = .ok false ∧
    goEq (.flt "float64" true 0 "0") (.flt "float64" true (2^63) "-0") = true :=
  ⟨rfl, rfl⟩

end C18.Findings
