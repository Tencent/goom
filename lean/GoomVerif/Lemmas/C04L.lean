import GoomVerif.Model.When
/-! `Inv sig d conds w` ties a `When` to the configuration it was built from; a call on such a state answers `specOut` and
leaves the state as it is (single-result matchers: the cursor does not move), so calls and registrations can alternate. -/
namespace When

mutual
def Spec.Sat (eqv : Val → Val → Bool) : Spec → Val → Prop
  | .any, _ => True
  | .val v, x => eqv v x = true
  | .isIn alts, x => SatAlts eqv alts [x]
def SatTuple (eqv : Val → Val → Bool) : List Spec → List Val → Prop
  | [], [] => True
  | e :: es, x :: xs => Spec.Sat eqv e x ∧ SatTuple eqv es xs
  | _, _ => False
def SatAlts (eqv : Val → Val → Bool) : List (List Spec) → List Val → Prop
  | [], _ => False
  | one :: rest, xs => SatTuple eqv one xs ∨ SatAlts eqv rest xs
end

theorem satTuple_length (eqv) : ∀ (es : List Spec) (xs : List Val), SatTuple eqv es xs → es.length = xs.length
  | [], [], _ => rfl
  | _ :: es, _ :: xs, h => congrArg (· + 1) (satTuple_length eqv es xs h.2)
  | [], _ :: _, h => h.elim
  | _ :: _, [], h => h.elim

mutual
theorem eval_iff (eqv) : ∀ (e : Spec) (x : Val), Spec.eval eqv e x = true ↔ Spec.Sat eqv e x
  | .any, _ => ⟨fun _ => trivial, fun _ => rfl⟩
  | .val _, _ => Iff.rfl
  | .isIn alts, x => evalAlts_iff eqv alts [x]
theorem evalTuple_iff (eqv) : ∀ (es : List Spec) (xs : List Val), evalTuple eqv es xs = true ↔ SatTuple eqv es xs
  | [], [] => ⟨fun _ => trivial, fun _ => rfl⟩
  | e :: es, x :: xs => by
    show (Spec.eval eqv e x && evalTuple eqv es xs) = true ↔ Spec.Sat eqv e x ∧ SatTuple eqv es xs
    rw [Bool.and_eq_true, eval_iff eqv e x, evalTuple_iff eqv es xs]
  | [], _ :: _ => ⟨Bool.noConfusion, False.elim⟩
  | _ :: _, [] => ⟨Bool.noConfusion, False.elim⟩
theorem evalAlts_iff (eqv) : ∀ (alts : List (List Spec)) (xs : List Val), evalAlts eqv alts xs = true ↔ SatAlts eqv alts xs
  | [], _ => ⟨Bool.noConfusion, False.elim⟩
  | one :: rest, xs => by
    show ((one.length == xs.length && evalTuple eqv one xs) || evalAlts eqv rest xs) = true ↔
      SatTuple eqv one xs ∨ SatAlts eqv rest xs
    rw [Bool.or_eq_true, Bool.and_eq_true, beq_iff_eq, evalTuple_iff eqv one xs, evalAlts_iff eqv rest xs]
    -- the length test of `InExpr.Eval` is implied by the positions matching
    exact or_congr_left (and_iff_right_of_imp (satTuple_length eqv one xs))
end

theorem bind_ok {α β : Type} (a : α) (f : α → Except Err β) : (Except.ok a >>= f) = f a := rfl

theorem ones_map_one (xs : List Val) : ones (xs.map Arg.one) = .ok xs := by
  induction xs with
  | nil => rfl
  | cons x xs ih => simp only [List.map_cons, ones, ih]

theorem normalize_receiver (sig : Sig) (a : Arg) (body : List Arg) :
    normalize sig (if sig.isMethod then a :: body else body) = normalize { sig with isMethod := false } body := by
  unfold normalize
  cases sig.isMethod <;> rfl

/-- `Match` sees exactly the logical argument tuple of a real call: receiver dropped, leading fixed parameters
    untouched, the packed variadic slice expanded element by element — whether the caller packed an empty tail as an
    empty slice (reflect.Call, Eval) or passed the nil slice of a compiled call site. -/
theorem normalize_encodeG (nt : Bool) (sig : Sig) (recv : Val) (xs : List Val) :
    normalize sig (encodeCallG nt sig recv xs) = .ok xs := by
  unfold encodeCallG
  rw [normalize_receiver]
  cases hv : sig.variadic
  · simp only [normalize, Bool.false_and, Bool.false_eq_true, if_false, ones_map_one]
  · have he (t : Arg) : ((xs.take (sig.nIn - 1)).map Arg.one ++ [t]).isEmpty = false := by
      cases xs.take (sig.nIn - 1) <;> rfl
    simp only [normalize, he, if_true, Bool.false_eq_true, if_false, Bool.true_and, Bool.not_false,
      List.getLast?_concat, List.dropLast_concat, ones_map_one, bind_ok]
    by_cases hn : (nt && (xs.drop (sig.nIn - 1)).isEmpty) = true
    · -- a nil slice stands for an empty tail: all of `xs` are fixed arguments
      rw [if_pos hn]
      exact congrArg Except.ok (List.take_of_length_le
        (List.drop_eq_nil_iff.1 (List.isEmpty_iff.1 (Bool.and_eq_true_iff.1 hn).2)))
    · rw [if_neg hn]
      exact congrArg Except.ok (List.take_append_drop ..)

theorem normalize_encode (sig : Sig) (recv : Val) (xs : List Val) :
    normalize sig (encodeCall sig recv xs) = .ok xs := normalize_encodeG false sig recv xs

def arityOk (sig : Sig) (n : Nat) : Prop := if sig.variadic then sig.nIn - 1 ≤ n else n = sig.nIn

instance (sig : Sig) (n : Nat) : Decidable (arityOk sig n) := by unfold arityOk; exact inferInstance

inductive Cond where
  | when (specs : List Spec)
  | isIn (alts : List (List Spec))

def Cond.matcher : Cond → Res → Matcher
  | .when specs, r => { kind := .dflt specs, results := [r], cur := 0 }
  | .isIn alts, r => { kind := .contains alts, results := [r], cur := 0 }

/-- Go passes `When()` a nil slice (`none`), which `CreateWhen` reads as "no condition given": hence `Config.WF.first_when` -/
def Cond.clause : Cond → Clause
  | .when [] => .when none
  | .when specs => .when (some specs)
  | .isIn alts => .isIn (alts.map Alt.tuple)

def Cond.WF (sig : Sig) : Cond → Prop
  | .when specs => arityOk sig specs.length ∧ tupleResolves specs = true
  | .isIn alts => ∀ a ∈ alts, arityOk sig a.length ∧ tupleResolves a = true

instance (sig : Sig) : (c : Cond) → Decidable (c.WF sig)
  | .when _ => inferInstanceAs (Decidable (_ ∧ _))
  | .isIn alts => inferInstanceAs (Decidable (∀ a ∈ alts, _))

/-- with no `Return` given, `CreateWhen` installs an empty default matcher exactly for a function without results; otherwise
    the `When` has no default and an unmatched call panics -/
def DfltOk (sig : Sig) (d : Option Res) (w : W) : Prop :=
  match d with
  | some d => ∃ id, w.dflt = some id ∧ id < w.next ∧ w.store id = some { kind := .always, results := [d], cur := 0 }
  | none => if sig.numOut = 0 then ∃ id, w.dflt = some id ∧ id < w.next ∧ w.store id = some { kind := .empty, results := [], cur := 0 }
            else w.dflt = none

/-- `pre`: the conditions registered so far, each stored with its single result and cursor 0.  `w.cur` (the matcher the next
    `Return` extends) is left free, so `inv_append` serves both `When…Return` and `Matches` -/
structure Inv (sig : Sig) (d : Option Res) (pre : List (Cond × Res)) (w : W) : Prop where
  sig_eq : w.sig = sig
  ms_eq : w.ms.map w.store = pre.map (fun p => some (p.1.matcher p.2))
  ms_lt : ∀ id ∈ w.ms, id < w.next
  dflt_ok : DfltOk sig d w

variable {eqv : Val → Val → Bool} {sig : Sig} {d : Option Res} {pre : List (Cond × Res)} {w : W}

/-- What the three arity tests of the code make of `arityOk`: the test of `ToExpr` and `Eval`, the type list that
    `newDefaultMatch` stretches to the number of expressions given, and `checkParams`. -/
theorem arityOk_tests {n : Nat} (h : arityOk sig n) :
    (if sig.variadic then decide (sig.nIn - 1 ≤ n) else n == sig.nIn) = true ∧
    (if sig.variadic then max (sig.nIn - 1) n else sig.nIn) = n ∧
    ¬ n < (if sig.variadic then sig.nIn - 1 else sig.nIn) := by
  unfold arityOk at h
  by_cases hv : sig.variadic = true
  · rw [if_pos hv] at h
    simp only [if_pos hv]
    exact ⟨decide_eq_true h, Nat.max_eq_right h, Nat.not_lt.2 h⟩
  · rw [if_neg hv] at h
    simp only [if_neg hv]
    exact ⟨beq_iff_eq.2 h, h.symm, h ▸ Nat.lt_irrefl _⟩

theorem newDefaultMatch_ok {a : List Spec} (rs : List Res) (h : arityOk sig a.length) (hr : tupleResolves a = true) :
    newDefaultMatch sig a rs = .ok { kind := .dflt a, results := rs, cur := 0 } := by
  obtain ⟨_, hstretch, _⟩ := arityOk_tests h
  simp only [newDefaultMatch, toExprOk, hstretch, hr, beq_self_eq_true, Bool.and_self, Bool.false_eq_true,
    if_false, if_true]

theorem resolveIn_tuples {alts : List (List Spec)} (h : ∀ a ∈ alts, arityOk sig a.length ∧ tupleResolves a = true) (i : Nat) :
    resolveIn sig i (alts.map Alt.tuple) = .ok alts := by
  induction alts generalizing i with
  | nil => rfl
  | cons a rest ih =>
    obtain ⟨ha, hr⟩ := h a List.mem_cons_self
    obtain ⟨htest, _, _⟩ := arityOk_tests ha
    show (if toExprOk a sig.nIn sig.variadic then
      resolveIn sig (i + 1) (rest.map Alt.tuple) >>= fun r => pure (a :: r) else throw Err.inerr) = _
    rw [toExprOk, htest, hr, ih fun b hb => h b (List.mem_cons_of_mem a hb)]
    rfl

/-- The invariant looks at the store only below `w.next`. -/
theorem inv_append (hi : Inv sig d pre w) (c : Cond) (r : Res) {store' : Nat → Option Matcher} (cu : Option Nat)
    (hnew : store' w.next = some (c.matcher r)) (hold : ∀ i, i < w.next → store' i = w.store i) :
    Inv sig d (pre ++ [(c, r)]) { w with store := store', next := w.next + 1, ms := w.ms ++ [w.next], cur := cu } := by
  obtain ⟨hs, hms, hlt, hd⟩ := hi
  have keep {m : Matcher} : (∃ id, w.dflt = some id ∧ id < w.next ∧ w.store id = some m) →
      ∃ id, w.dflt = some id ∧ id < w.next + 1 ∧ store' id = some m :=
    Exists.imp fun id h => ⟨h.1, Nat.lt_succ_of_lt h.2.1, (hold id h.2.1).trans h.2.2⟩
  refine ⟨hs, ?_, ?_, ?_⟩
  · rw [List.map_append, List.map_append, ← hms]
    exact congr (congrArg _ (List.map_congr_left fun id hid => hold id (hlt id hid))) (congrArg (· :: _) hnew)
  · intro id hid
    rcases List.mem_append.1 hid with h | h
    · exact Nat.lt_succ_of_lt (hlt id h)
    · exact List.mem_singleton.1 h ▸ Nat.lt_succ_self _
  · unfold DfltOk at hd ⊢
    split
    · exact keep hd
    · split
      · next h0 => exact keep ((if_pos h0).mp hd)
      · next h0 => exact (if_neg h0).mp hd

theorem ret_current {id cnt : Nat} {r : Res} {m m' : Matcher} (hcur : w.cur = some id) (hst : w.store id = some m)
    (hadd : m.addResult w.sig cnt r = .ok m') : w.ret cnt r = .ok { w.set id m' with ms := w.ms ++ [id] } := by
  unfold W.ret
  rw [hcur]
  show (w.get id >>= fun m => m.addResult w.sig cnt r >>= _) = _
  rw [W.get, hst, bind_ok, hadd]
  rfl

theorem step_cond (hi : Inv sig d pre w) {c : Cond} (r : Res) (hc : c.WF sig) :
    ∃ w1 w2, w.step c.clause = .ok w1 ∧ w1.step (.ret sig.numOut r) = .ok w2 ∧ Inv sig d (pre ++ [(c, r)]) w2 := by
  have hs := hi.sig_eq
  subst hs
  let w1 : W := { (w.alloc { c.matcher r with results := [] }).1 with cur := some w.next }
  refine ⟨w1, { w1.set w.next (c.matcher r) with ms := w.ms ++ [w.next] }, ?_, ?_, ?_⟩
  · cases c with
    | when specs =>
      have h : w.step (Cond.when specs).clause = w.when specs := by cases specs <;> rfl
      rw [h, W.when, newDefaultMatch_ok [] hc.1 hc.2]
      rfl
    | isIn alts =>
      show (newContainsMatch w.sig (alts.map Alt.tuple) [] >>= _) = _
      rw [newContainsMatch, resolveIn_tuples hc 0]
      rfl
  · refine ret_current (w := w1) rfl (if_pos rfl) ?_
    show Matcher.addResult w.sig _ w.sig.numOut r = _
    cases c <;> simp only [Cond.matcher, Matcher.addResult, bne_self_eq_false, Bool.false_eq_true, if_false, List.nil_append]
  · refine inv_append hi c r _ (if_pos rfl) fun i hlt => ?_
    have hne := Nat.ne_of_lt hlt
    show (if i = w.next then _ else if i = w.next then _ else _) = _
    rw [if_neg hne, if_neg hne]

def condScript (sig : Sig) (conds : List (Cond × Res)) : List Clause :=
  conds.flatMap (fun p => [p.1.clause, Clause.ret sig.numOut p.2])

theorem steps_conds {conds : List (Cond × Res)} (hi : Inv sig d pre w) (hc : ∀ p ∈ conds, p.1.WF sig) :
    ∃ w', w.steps (condScript sig conds) = .ok w' ∧ Inv sig d (pre ++ conds) w' := by
  induction conds generalizing pre w with
  | nil => exact ⟨w, rfl, by rwa [List.append_nil]⟩
  | cons p rest ih =>
    obtain ⟨c, r⟩ := p
    obtain ⟨w1, w2, h1, h2, hi2⟩ := step_cond hi r (hc _ List.mem_cons_self)
    obtain ⟨w3, h3, hi3⟩ := ih hi2 fun q hq => hc q (List.mem_cons_of_mem _ hq)
    refine ⟨w3, ?_, by rwa [List.append_assoc] at hi3⟩
    show (w.step c.clause >>= fun w => w.step (.ret sig.numOut r) >>= fun w => w.steps (condScript sig rest)) = .ok w3
    rw [h1, bind_ok, h2, bind_ok, h3]

structure Config where
  dflt : Option Res
  conds : List (Cond × Res)

def Config.script (sig : Sig) (cfg : Config) : List Clause :=
  (match cfg.dflt with | some d => [Clause.ret sig.numOut d] | none => []) ++ condScript sig cfg.conds

structure Config.WF (sig : Sig) (cfg : Config) : Prop where
  conds_wf : ∀ p ∈ cfg.conds, p.1.WF sig
  nonempty : cfg.dflt = none → cfg.conds ≠ []
  first_when : cfg.dflt = none → ∀ specs r rest, cfg.conds = (Cond.when specs, r) :: rest → specs ≠ []

/- `createWhen` branches on `numOut = 0` and on nothing else that is left open here, so once `numOut` is `0` or a
   successor it computes. -/
theorem createWhen_none_inv (sig : Sig) : ∃ w, createWhen sig none none = .ok w ∧ Inv sig none [] w := by
  obtain ⟨nIn, v, m, numOut⟩ := sig
  cases numOut with
  | zero => exact ⟨_, rfl, { sig_eq := rfl, ms_eq := rfl, ms_lt := nofun, dflt_ok := ⟨0, rfl, Nat.zero_lt_one, rfl⟩ }⟩
  | succ n => exact ⟨_, rfl, { sig_eq := rfl, ms_eq := rfl, ms_lt := nofun, dflt_ok := rfl }⟩

theorem createWhen_dflt_inv (sig : Sig) (d : Res) :
    ∃ w, createWhen sig none (some (sig.numOut, d)) = .ok w ∧ Inv sig (some d) [] w := by
  simp only [createWhen, newAlwaysMatch, Nat.lt_irrefl, bne_self_eq_false, Bool.false_eq_true, if_false]
  exact ⟨_, rfl, { sig_eq := rfl, ms_eq := rfl, ms_lt := nofun, dflt_ok := ⟨0, rfl, Nat.zero_lt_one, rfl⟩ }⟩

/-- Without a default, a first condition is registered as on a fresh `When` — unless it is `When()`, whose nil slice
    `CreateWhen` takes for "no condition given" (finding K1). -/
theorem first_cond {c : Cond} (hc : c.WF sig) (hne : c ≠ .when []) :
    first sig c.clause = createWhen sig none none >>= fun w => w.step c.clause := by
  cases c with
  | isIn alts => rfl
  | when specs =>
    cases specs with
    | nil => exact absurd rfl hne
    | cons e es =>
      -- `CreateWhen` with arguments is `checkParams`, then `CreateWhen` without, then `When`
      have h : createWhen sig (some (e :: es)) none =
          if (e :: es).length < (if sig.variadic then sig.nIn - 1 else sig.nIn) then .error .arglen
          else createWhen sig none none >>= fun w => w.when (e :: es) := by
        obtain ⟨nIn, v, m, numOut⟩ := sig
        cases numOut <;> rfl
      obtain ⟨_, _, hcheck⟩ := arityOk_tests hc.1
      exact h.trans (if_neg hcheck)

theorem build_inv (sig : Sig) (cfg : Config) (hw : cfg.WF sig) :
    ∃ w, build sig (cfg.script sig) = .ok w ∧ Inv sig cfg.dflt cfg.conds w := by
  obtain ⟨dflt, conds⟩ := cfg
  have hfirst : ∃ w0, Inv sig dflt [] w0 ∧
      build sig (Config.script sig ⟨dflt, conds⟩) = w0.steps (condScript sig conds) := by
    cases dflt with
    | some d =>
      obtain ⟨w0, h0, hi0⟩ := createWhen_dflt_inv sig d
      refine ⟨w0, hi0, ?_⟩
      show (createWhen sig none (some (sig.numOut, d)) >>= _) = _
      rw [h0]
      rfl
    | none =>
      obtain ⟨w0, h0, hi0⟩ := createWhen_none_inv sig
      cases conds with
      | nil => exact absurd rfl (hw.nonempty rfl)
      | cons p rest =>
        refine ⟨w0, hi0, ?_⟩
        have hne : p.1 ≠ .when [] := fun h => hw.first_when rfl [] p.2 rest (h ▸ rfl) rfl
        show (first sig p.1.clause >>= _) = _
        rw [first_cond (hw.conds_wf p List.mem_cons_self) hne, h0]
        rfl
  obtain ⟨w0, hi0, hb⟩ := hfirst
  obtain ⟨w1, h1, hi1⟩ := steps_conds hi0 hw.conds_wf
  exact ⟨w1, hb.trans h1, hi1⟩

def Cond.holdsB (eqv : Val → Val → Bool) : Cond → List Val → Bool
  | .when specs, xs => evalTuple eqv specs xs
  | .isIn alts, xs => evalAlts eqv alts xs

theorem matchArgs_cond (c : Cond) (r : Res) {args : List Arg} {xs : List Val} (hn : normalize sig args = .ok xs) :
    (c.matcher r).matchArgs eqv sig args = .ok (c.holdsB eqv xs) := by
  cases c with
  | when specs =>
    show (normalize sig args >>= fun xs => pure (if xs.length != specs.length then false else evalTuple eqv specs xs)) =
      .ok (evalTuple eqv specs xs)
    rw [hn, bind_ok]
    -- the length test of `DefaultMatcher.Match` is implied by the positions matching
    cases h : evalTuple eqv specs xs with
    | false => exact congrArg Except.ok (ite_self false)
    | true =>
      rw [← satTuple_length eqv specs xs ((evalTuple_iff eqv specs xs).1 h), bne_self_eq_false]
      rfl
  | isIn alts =>
    show (normalize sig args >>= fun xs => pure (evalAlts eqv alts xs)) = _
    rw [hn]
    rfl

theorem scan_spec {args : List Arg} {xs : List Val} (hn : normalize w.sig args = .ok xs) :
    ∀ (ids : List Nat) (l : List (Cond × Res)), ids.map w.store = l.map (fun p => some (p.1.matcher p.2)) →
      ∃ o, W.scan eqv w args ids = .ok o ∧
        (match l.find? (fun p => p.1.holdsB eqv xs) with
         | some p => ∃ id, o = some id ∧ w.store id = some (p.1.matcher p.2)
         | none => o = none) := by
  intro ids
  induction ids with
  | nil =>
    intro l hl
    cases l with
    | nil => exact ⟨none, rfl, rfl⟩
    | cons _ _ => nomatch hl
  | cons id rest ih =>
    intro l hl
    cases l with
    | nil => nomatch hl
    | cons p l' =>
      obtain ⟨hid, hrest⟩ := List.cons.inj hl
      have hstep : W.scan eqv w args (id :: rest) =
          if p.1.holdsB eqv xs then .ok (some id) else W.scan eqv w args rest := by
        show (w.get id >>= fun m => m.matchArgs eqv w.sig args >>= fun b =>
          if b then pure (some id) else W.scan eqv w args rest) = _
        rw [W.get, hid, bind_ok, matchArgs_cond p.1 p.2 hn, bind_ok]
        rfl
      rw [hstep, List.find?_cons]
      cases p.1.holdsB eqv xs with
      | true => exact ⟨some id, rfl, id, rfl, hid⟩
      | false => exact ih l' hrest

def specOut (eqv : Val → Val → Bool) (sig : Sig) (cfg : Config) (xs : List Val) : Except Err Out :=
  match cfg.conds.find? (fun p => p.1.holdsB eqv xs) with
  | some p => .ok (.ret p.2)
  | none =>
    match cfg.dflt with
    | some d => .ok (.ret d)
    | none => if sig.numOut = 0 then .ok .unit else .error .nosuitable

/-- The matcher that answers (the one found, or the default) is one whose `Result` returns the matcher itself
    unchanged (a single result, or the empty default), so writing it back leaves the state as it is. -/
theorem fire {id : Nat} {m : Matcher} {o : Out} (hst : w.store id = some m) (hres : m.result = .ok (o, m)) :
    (w.get id >>= fun m => m.result >>= fun p => pure (p.1, w.set id p.2)) = Except.ok (o, w) := by
  have hset : (fun i => if i = id then some m else w.store i) = w.store := by
    funext i
    by_cases hi : i = id
    · rw [if_pos hi, hi, hst]
    · rw [if_neg hi]
  rw [W.get, hst, bind_ok, hres, bind_ok]
  show Except.ok (o, { w with store := _ }) = _
  rw [hset]

theorem result_cond (c : Cond) (r : Res) : (c.matcher r).result = .ok (.ret r, c.matcher r) := by
  cases c <;> rfl

theorem invoke_eq {cfg : Config} (hi : Inv sig cfg.dflt cfg.conds w) {args : List Arg} {xs : List Val}
    (hn : normalize sig args = .ok xs) : w.invoke eqv args = (specOut eqv sig cfg xs).map (·, w) := by
  obtain ⟨dflt, conds⟩ := cfg
  obtain ⟨hs, hms, hlt, hd⟩ := hi
  subst hs
  obtain ⟨o, ho, hspec⟩ := scan_spec (eqv := eqv) hn w.ms conds hms
  unfold W.invoke specOut
  rw [ho, bind_ok]
  split at hspec
  · next p hf =>
    obtain ⟨id, rfl, hst⟩ := hspec
    rw [hf]
    exact fire hst (result_cond p.1 p.2)
  · next hf =>
    subst hspec
    rw [hf]
    unfold DfltOk at hd
    show (match w.dflt with | none => _ | some id => _) = _
    cases dflt with
    | some d =>
      obtain ⟨id, h1, _, h3⟩ := hd
      rw [h1]
      exact fire h3 rfl
    | none =>
      by_cases h0 : w.sig.numOut = 0
      · obtain ⟨id, h1, _, h3⟩ := (if_pos h0).mp hd
        rw [h1, if_pos h0]
        exact fire h3 rfl
      · rw [(if_neg h0).mp hd, if_neg h0]
        exact if_pos (bne_iff_ne.2 h0)

theorem invoke_inv {cfg : Config} (hi : Inv sig cfg.dflt cfg.conds w) {args : List Arg} {xs : List Val}
    (hn : normalize sig args = .ok xs) : (w.invoke eqv args).map Prod.fst = specOut eqv sig cfg xs := by
  rw [invoke_eq hi hn]
  cases specOut eqv sig cfg xs <;> rfl

theorem invoke_inv2 (eqv) (sig : Sig) (cfg : Config) (w : W) (hi : Inv sig cfg.dflt cfg.conds w) (args : List Arg) (xs : List Val)
    (hn : normalize sig args = .ok xs) :
    match specOut eqv sig cfg xs with
    | .ok o => ∃ w', w.invoke eqv args = .ok (o, w') ∧ Inv sig cfg.dflt cfg.conds w'
    | .error e => w.invoke eqv args = .error e := by
  rw [invoke_eq hi hn]
  cases specOut eqv sig cfg xs with
  | ok o => exact ⟨w, rfl, hi⟩
  | error e => rfl

theorem evalCall_of_arity (eqv) {xs : List Val} (h : arityOk w.sig xs.length) :
    w.evalCall eqv xs = w.invoke eqv (encodeCall w.sig 0 xs) := by
  obtain ⟨htest, _, _⟩ := arityOk_tests h
  rw [W.evalCall, htest]
  rfl

theorem invoke_congr (eqv) (w : W) {a1 a2 : List Arg} (h : normalize w.sig a1 = normalize w.sig a2) :
    w.invoke eqv a1 = w.invoke eqv a2 := by
  have hscan : ∀ ids, W.scan eqv w a1 ids = W.scan eqv w a2 ids := by
    intro ids
    induction ids with
    | nil => rfl
    | cons id rest ih => simp only [W.scan, Matcher.matchArgs, h, ih]
  simp only [W.invoke, hscan]

def pairConds (ps : List (List Spec × Res)) : List (Cond × Res) := ps.map (fun p => (Cond.when p.1, p.2))

theorem matchPairs_inv {ps : List (List Spec × Res)} (hi : Inv sig d pre w) (hc : ∀ p ∈ ps, (Cond.when p.1).WF sig) :
    ∃ w', w.matchPairs ps = .ok w' ∧ Inv sig d (pre ++ pairConds ps) w' := by
  induction ps generalizing pre w with
  | nil => exact ⟨w, rfl, by rwa [pairConds, List.map_nil, List.append_nil]⟩
  | cons p rest ih =>
    obtain ⟨args, r⟩ := p
    obtain ⟨ha, hr⟩ := hc (args, r) List.mem_cons_self
    obtain ⟨w2, h2, hi2⟩ := ih (inv_append hi (.when args) r w.cur (if_pos rfl) fun i hlt => if_neg (Nat.ne_of_lt hlt))
      fun q hq => hc q (List.mem_cons_of_mem _ hq)
    refine ⟨w2, ?_, by rwa [List.append_assoc] at hi2⟩
    show (newDefaultMatch w.sig args [r] >>= fun m => W.matchPairs { (w.alloc m).1 with ms := w.ms ++ [w.next] } rest) = _
    rw [hi.sig_eq, newDefaultMatch_ok [r] ha hr]
    exact h2

inductive Ev where
  | reg (c : Cond) (r : Res)                          -- `When(..)/In(..)` followed by its `Return(r)`
  | call (nilTail : Bool) (recv : Val) (xs : List Val)

def evSteps (sig : Sig) : List Ev → List Step
  | [] => []
  | .reg c r :: rest => .clause c.clause :: .clause (.ret sig.numOut r) :: evSteps sig rest
  | .call nt recv xs :: rest => .call nt recv xs :: evSteps sig rest

/-- what the property demands of a history: every registration is accepted, every call answers by the conditions
    registered **before it** -/
def expected (eqv : Val → Val → Bool) (sig : Sig) (d : Option Res) : List (Cond × Res) → List Ev → List Obs
  | _, [] => []
  | conds, .reg c r :: rest => .ok :: .ok :: expected eqv sig d (conds ++ [(c, r)]) rest
  | conds, .call _ _ xs :: rest =>
    (match specOut eqv sig { dflt := d, conds := conds } xs with
     | .ok o => Obs.out o
     | .error e => Obs.panic e) :: expected eqv sig d conds rest

def EvsWF (sig : Sig) : List Ev → Prop
  | [] => True
  | .reg c _ :: rest => c.WF sig ∧ EvsWF sig rest
  | .call _ _ _ :: rest => EvsWF sig rest

theorem run_clause {c : Clause} {w' : W} (steps : List Step) (h : w.step c = .ok w') :
    w.run eqv (.clause c :: steps) = .ok :: w'.run eqv steps := by
  show (match w.stepObs eqv (.clause c) with | (obs, some w') => obs ++ W.run eqv w' steps | (obs, none) => obs) = _
  rw [W.stepObs, h]
  rfl

theorem run_history (eqv) (sig : Sig) (d : Option Res) (evs : List Ev) :
    ∀ (conds : List (Cond × Res)) (w : W), Inv sig d conds w → EvsWF sig evs →
      w.run eqv (evSteps sig evs) = expected eqv sig d conds evs := by
  induction evs with
  | nil => intro _ _ _ _; rfl
  | cons e rest ih =>
    intro conds w hi hwf
    cases e with
    | reg c r =>
      obtain ⟨w1, w2, h1, h2, hi2⟩ := step_cond hi r hwf.1
      show w.run eqv (.clause c.clause :: .clause (.ret sig.numOut r) :: evSteps sig rest) =
        .ok :: .ok :: expected eqv sig d (conds ++ [(c, r)]) rest
      rw [run_clause _ h1, run_clause _ h2, ih _ w2 hi2 hwf.2]
    | call nt recv xs =>
      have hs := hi.sig_eq
      subst hs
      show (match w.stepObs eqv (.call nt recv xs) with
        | (obs, some w') => obs ++ W.run eqv w' (evSteps w.sig rest) | (obs, none) => obs) =
        _ :: expected eqv w.sig d conds rest
      rw [W.stepObs, invoke_eq (cfg := ⟨d, conds⟩) hi (normalize_encodeG nt w.sig recv xs), ← ih conds w hi hwf]
      cases specOut eqv w.sig ⟨d, conds⟩ xs <;> rfl

instance : DecidableEq (Except Err Out)
  | .ok a, .ok b => if h : a = b then isTrue (h ▸ rfl) else isFalse fun h' => h (Except.ok.inj h')
  | .error a, .error b => if h : a = b then isTrue (h ▸ rfl) else isFalse fun h' => h (Except.error.inj h')
  | .ok _, .error _ => isFalse nofun
  | .error _, .ok _ => isFalse nofun

end When
