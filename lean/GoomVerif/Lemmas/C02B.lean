import GoomVerif.Lemmas.C02L
import GoomVerif.Props.C15
namespace C02L
open Patch

theorem jumpTo_inj (a b : BitVec 64) (h : jumpTo a = jumpTo b) : a = b := C15.amd64_entry_inj 0 a b h

theorem find?_jump {cur : Bytes} {a : BitVec 64} (hc : cur = jumpTo a) (addr : Nat → BitVec 64) (N : Nat) :
    (∀ k, k < N → addr k = a → (∀ x, x < N → addr x = a → x = k) →
      (List.range N).find? (fun x => decide (cur = jumpTo (addr x))) = some k) ∧
    ((∀ x, x < N → addr x ≠ a) → (List.range N).find? (fun x => decide (cur = jumpTo (addr x))) = none) := by
  have hit : ∀ x, decide (cur = jumpTo (addr x)) = true → addr x = a := fun x hp =>
    jumpTo_inj _ _ ((of_decide_eq_true hp).symm.trans hc)
  constructor
  · intro k hk e hu
    rw [List.find?_range_eq_some]
    refine ⟨decide_eq_true (by rw [e]; exact hc), List.mem_range.mpr hk, fun j hj => ?_⟩
    rw [Bool.not_eq_true', Bool.eq_false_iff]
    exact fun hp => Nat.ne_of_lt hj (hu j (Nat.lt_trans hj hk) (hit j hp))
  · intro hn
    rw [List.find?_eq_none]
    exact fun x hx hp => hn x (List.mem_range.mp hx) (hit x hp)

/-- distinct funcvals live at distinct addresses (user callbacks are static funcvals, MakeFunc stubs heap objects).  Injectivity is
    stated for the `nCb` callbacks the observer knows, the first `nS` stubs and the first `nA` adapters (addresses are 64-bit: no family
    is injective on all of ℕ); a callback is kept apart from those stubs and adapters for EVERY `k` — `behaviour_stable` needs it for a
    callback the observer does not know -/
structure AddrOk (env : Env) (nCb nS nA : Nat) : Prop where
  cb_inj : ∀ k k', k < nCb → k' < nCb → env.cbAddr k = env.cbAddr k' → k = k'
  stub_inj : ∀ n n', n < nS → n' < nS → env.stubAddr n = env.stubAddr n' → n = n'
  disjoint : ∀ k n, n < nS → env.cbAddr k ≠ env.stubAddr n
  /-- the first `nA` dictionary-dropping adapters are heap objects of their own -/
  adapt_inj : ∀ n n', n < nA → n' < nA → env.adaptAddr n = env.adaptAddr n' → n = n'
  adapt_cb : ∀ k n, n < nA → env.cbAddr k ≠ env.adaptAddr n
  adapt_stub : ∀ m n, m < nS → n < nA → env.stubAddr m ≠ env.adaptAddr n

/-- `id < nMockers`: `getMocker.fresh` overwrites slot `nMockers`, so the transfer lemmas speak of allocated ids only (`Own.hnd` says the
    same of kept handles).  The stub clause is what `behaviour_reachable` exports (`hasWhen`) and what puts stub `n` inside the range
    `behaviour` searches; a callback witness needs no `When`, which is why `clearWhen` after `Apply` does no harm. -/
def Witness (env : Env) (s : St) (g : Nat) : Prop :=
  ∃ id imp, id < s.nMockers ∧ (s.mockers id).guard = some g ∧ (s.mockers id).imp = some imp ∧
    (∃ a, (s.guards g).jumpBytes = jumpTo a ∧ Denotes env s a imp) ∧ (s.mockers id).canceled = false ∧
    (∀ n, imp = .stub n → (s.mockers id).hasWhen = true ∧ n < s.nStubs)

/-- ownership: a patched entry carries the jump to the current implementation of a live mocker -/
def OwnAt (env : Env) (s : St) (f : Nat) : Prop :=
  ∀ p g, s.patches f = some p → p.guard = some g → (s.guards g).applied = true → s.text f ≠ env.pristine f → Witness env s g

/-- the part of a mocker that `Witness` reads -/
def mv (m : Mocker) := (m.guard, m.imp, m.canceled, m.hasWhen)

theorem OwnAt.transfer {env : Env} {s s' : St} {f : Nat} (ho : OwnAt env s f) (hi : Inv env s)
    (hpat : s'.patches f = s.patches f) (hgd : ∀ g, g < s.nGuards → s'.guards g = s.guards g)
    (htx : s'.text f = s.text f ∨ s'.text f = env.pristine f)
    (hm : ∀ id, id < s.nMockers → (s.mockers id).target = f → mv (s'.mockers id) = mv (s.mockers id))
    (hle : Le s s') : OwnAt env s' f := by
  intro p g h1 h2 h3 h4
  rw [hpat] at h1
  have hr := hi.reg f p g h1 h2
  rw [hgd g hr.1] at h3
  obtain ⟨id, imp, hlt, hg, him, ⟨a, hj, hd⟩, hc, hs⟩ :=
    ho p g h1 h2 h3 fun e => htx.elim (fun e' => h4 (e'.trans e)) h4
  have hmv := hm id hlt ((hi.mg id g hg).2.symm.trans hr.2)
  simp only [mv, Prod.mk.injEq] at hmv
  exact ⟨id, imp, Nat.lt_of_lt_of_le hlt hle.nMockers, hmv.1.trans hg, hmv.2.1.trans him,
    ⟨a, (congrArg Guard.jumpBytes (hgd g hr.1)).trans hj, hd.mono hle⟩, hmv.2.2.1.trans hc,
    fun n hn => ⟨hmv.2.2.2.trans (hs n hn).1, Nat.lt_of_lt_of_le (hs n hn).2 hle.nStubs⟩⟩

/-- a function that still carries a jump was not touched, so its witness was not cancelled -/
theorem Cancels.own {env : Env} {s s' : St} {C : Nat → Prop} {f : Nat} (h : Cancels env s s' C) (hi : Inv env s)
    (ho : OwnAt env s f) : OwnAt env s' f := by
  intro p g h1 h2 h3 h4
  rw [show s'.patches = s.patches from (congrArg St.patches h.shape :)] at h1
  have hgd : s'.guards = s.guards := (congrArg St.guards h.shape :)
  rw [hgd] at h3
  obtain ⟨id, imp, hlt, hg, him, ⟨a, hj, hd⟩, hc, hs⟩ :=
    ho p g h1 h2 h3 fun e => (h.weak f).elim (fun e' => h4 (e'.trans e)) h4
  rcases h.rest id with e | c
  · have hle : Le s s' := .of_eq (congrArg counters h.shape :)
    rw [← e] at hg him hc hs
    exact ⟨id, imp, Nat.lt_of_lt_of_le hlt hle.nMockers, hg, him, ⟨a, by rw [hgd]; exact hj, hd.mono hle⟩, hc,
      fun n hn => ⟨(hs n hn).1, Nat.lt_of_lt_of_le (hs n hn).2 hle.nStubs⟩⟩
  · have := (h.done id c).2 g hg h3
    rw [(hi.mg id g hg).2.symm.trans (hi.reg f p g h1 h2).2] at this
    exact absurd this h4

/-- before the call the target need not be owned: `whens` has just replaced `m.imp` -/
theorem applyImp_own {env : Env} (he : EnvOk env) {s : St} (hi : Inv env s) (id : Nat) (imp : Imp)
    (ho : ∀ f, f ≠ (s.mockers id).target → OwnAt env s f) (hid : id < s.nMockers)
    (hs : ∀ n, imp = .stub n → (s.mockers id).hasWhen = true ∧ n < s.nStubs) (f : Nat) :
    OwnAt env (applyImp env s id imp).1 f := by
  have A := applyImp_spec he hi id imp
  by_cases hf : f = (s.mockers id).target
  · intro p g h1 h2 h3 h4
    rw [hf] at h1 h4
    cases hok : (applyImp env s id imp).2 with
    | some e => exact absurd (A.err (by rw [hok]; exact fun h => nomatch h)) h4
    | none =>
      obtain ⟨_, _, hd, him, hc, g0, hg0, hj0, hreg⟩ := A.ok hok
      cases hreg p g h1 h2
      exact ⟨id, imp, Nat.lt_of_lt_of_le hid A.le.nMockers, hg0, him, ⟨_, hj0, hd⟩, hc,
        fun n hn => ⟨A.hasWhen.trans (hs n hn).1, Nat.lt_of_lt_of_le (hs n hn).2 A.le.nStubs⟩⟩
  · exact (ho f hf).transfer hi (A.patches f hf) A.guards (Or.inl (A.text f hf))
      (fun j _ ht => by rw [A.others j fun e => hf (by rw [← ht, e])]) A.le

structure Own (env : Env) (s : St) : Prop where
  own : ∀ f, OwnAt env s f
  hnd : ∀ b key id, s.handle b key = some id → id < s.nMockers

theorem own_init (env : Env) : Own env (init env) :=
  ⟨fun _ _ _ h => (nomatch (show none = some _ from h)), fun _ _ _ h => (nomatch (show none = some _ from h))⟩

theorem Own.of_handle {env : Env} {s s' : St} (ho : Own env s) (hh : s'.handle = s.handle) (hn : s.nMockers ≤ s'.nMockers)
    (h : ∀ f, OwnAt env s' f) : Own env s' :=
  ⟨h, fun b key id e => Nat.lt_of_lt_of_le (ho.hnd b key id (by rw [← hh]; exact e)) hn⟩

/-- `own` is an implication: `inv_step` reads `Step` without ownership, and for `applyH`/`retH` the bound `id < nMockers` itself comes
    from `Own.hnd` (hypothesis `hid` of `applyCb_step`, `ret_step`) -/
structure Step (env : Env) (s s' : St) : Prop where
  inv : Inv env s'
  own : Own env s → Own env s'
  le : Le s s'

theorem Step.refl {env : Env} {s : St} (hi : Inv env s) : Step env s s := ⟨hi, id, .of_eq rfl⟩

theorem Step.trans {env : Env} {a b c : St} (h1 : Step env a b) (h2 : Step env b c) : Step env a c :=
  ⟨h2.inv, fun h => h2.own (h1.own h), h1.le.trans h2.le⟩

theorem Step.of_mockers {env : Env} {s s' : St} (hi : Inv env s) (hi' : Inv env s') (hle : Le s s') (ht : s'.text = s.text)
    (hp : s'.patches = s.patches) (hg : s'.guards = s.guards) (hh : s'.handle = s.handle)
    (hm : ∀ j, j < s.nMockers → mv (s'.mockers j) = mv (s.mockers j)) : Step env s s' :=
  ⟨hi', fun ho => ho.of_handle hh hle.nMockers fun f =>
    (ho.own f).transfer hi (congrFun hp f) (fun g _ => congrFun hg g) (Or.inl (congrFun ht f)) (fun j h _ => hm j h) hle, hle⟩

theorem Cancels.step {env : Env} {s s' : St} {C : Nat → Prop} (h : Cancels env s s' C) (hi : Inv env s) : Step env s s' :=
  have hle : Le s s' := .of_eq (congrArg counters h.shape :)
  ⟨h.inv hi, fun ho => ho.of_handle (congrArg St.handle h.shape :) hle.nMockers fun f => h.own hi (ho.own f), hle⟩

theorem getMocker_step {env : Env} {s : St} (hi : Inv env s) (b key : Nat) : Step env s (getMocker s b key).1 := by
  obtain ⟨i, sh, _, hn, old, _⟩ := getMocker_spec hi b key
  exact .of_mockers hi i ⟨hn, Nat.le_of_eq (congrArg St.nStubs sh :).symm, Nat.le_of_eq (congrArg St.nAdapt sh :).symm,
    fun _ _ => congrFun (congrArg St.adapt sh :) _⟩ (congrArg St.text sh :) (congrArg St.patches sh :)
    (congrArg St.guards sh :) (congrArg St.handle sh :) fun j h => congrArg mv (old j h)

theorem setOrigin_step {env : Env} {s : St} (hi : Inv env s) (id : Nat) (o : Option Nat) : Step env s (setOrigin s id o) := by
  cases o with
  | none => exact .refl hi
  | some o =>
    exact .of_mockers hi (hi.set_mocker id (by rfl) (by rfl)) (.of_eq rfl) rfl rfl rfl rfl fun j _ => upd_congr mv (by rfl) j

theorem applyCb_step {env : Env} (he : EnvOk env) {s : St} (hi : Inv env s) (id k : Nat) (hid : Own env s → id < s.nMockers) :
    Step env s (applyCb env s id k).1 := by
  have A := applyImp_spec he hi id (.cb k)
  have st : Step env s (applyImp env s id (.cb k)).1 := ⟨A.inv, fun ho =>
    ho.of_handle (congrArg St.handle A.shape :) A.le.nMockers
      (applyImp_own he hi id (.cb k) (fun f _ => ho.own f) (hid ho) fun _ h => nomatch h), A.le⟩
  unfold applyCb
  cases hok : (applyImp env s id (.cb k)).2 with
  | some e => exact st
  | none =>
    show Step env s (clearWhen (applyImp env s id (.cb k)).1 id)
    refine st.trans ⟨A.inv.set_mocker id (by rfl) (by rfl), fun ho => ⟨fun f p g h1 h2 h3 h4 => ?_, ho.hnd⟩, .of_eq rfl⟩
    -- the witness keeps its callback; only a stub needs the `When`
    obtain ⟨j, imp, hlt, hg, him, hj, hc, hs⟩ := ho.own f p g h1 h2 h3 h4
    by_cases e : j = id
    · rw [e] at hlt hg him hc
      exact ⟨id, imp, hlt, (congrArg Mocker.guard upd_same).trans hg, (congrArg Mocker.imp upd_same).trans him, hj,
        (congrArg Mocker.canceled upd_same).trans hc,
        fun n hn => by
          obtain ⟨_, _, _, hcb, _⟩ := A.ok hok
          exact nomatch hcb.symm.trans (him.trans (congrArg some hn))⟩
    · have hu : (clearWhen (applyImp env s id (.cb k)).1 id).mockers j = (applyImp env s id (.cb k)).1.mockers j := upd_other _ _ _ _ e
      rw [← hu] at hg him hc hs
      exact ⟨j, imp, hlt, hg, him, hj, hc, hs⟩

theorem ret_step {env : Env} (he : EnvOk env) {s : St} (hi : Inv env s) (id : Nat) (hid : Own env s → id < s.nMockers) :
    Step env s (if (s.mockers id).hasWhen = true then (s, none) else applyImp env (whens s id) id (.stub s.nStubs)).1 := by
  split
  · exact .refl hi
  · have iw := whens_inv hi id
    have lw : Le s (whens s id) := ⟨Nat.le_refl _, Nat.le_succ _, Nat.le_refl _, fun _ _ => rfl⟩
    have A := applyImp_spec he iw id (.stub s.nStubs)
    refine ⟨A.inv, fun ho => ?_, lw.trans A.le⟩
    refine ho.of_handle (congrArg St.handle A.shape :) A.le.nMockers (applyImp_own he iw id _ (fun f hf => ?_) (hid ho) fun n hn => ?_)
    · refine (ho.own f).transfer hi rfl (fun _ _ => rfl) (Or.inl rfl) (fun j _ ht => ?_) lw
      have hj : j ≠ id := fun e => hf (by rw [← ht, e]; exact whens_target.symm)
      exact congrArg mv (upd_other _ _ _ _ hj)
    · cases hn
      exact ⟨congrArg Mocker.hasWhen upd_same, Nat.lt_succ_self _⟩

theorem Step.of_struct {env : Env} {s s' : St} (hi : Inv env s) {a : Nat → Option Nat} {n : Nat} {c : Nat → Option Nat}
    (h : s' = { s with scache := a, nStructs := n, shandle := c }) : Step env s s' := by
  subst h
  exact .of_mockers hi (hi.congr rfl rfl rfl rfl rfl rfl rfl fun _ => ⟨rfl, rfl⟩) (.of_eq rfl) rfl rfl rfl rfl fun _ _ => rfl

theorem getStruct_shape (s : St) (b : Nat) :
    (getStruct s b).1 = { s with scache := (getStruct s b).1.scache, nStructs := (getStruct s b).1.nStructs } := by
  unfold getStruct
  cases s.scache b with
  | none => rfl
  | some o =>
    dsimp only
    split <;> rfl

theorem structOf_shape (s : St) (b : Nat) (kept : Bool) (r : St × Nat) (h : structOf s b kept = some r) :
    r.1 = { s with scache := r.1.scache, nStructs := r.1.nStructs } := by
  unfold structOf at h
  split at h
  · cases hs : s.shandle b with
    | none => rw [hs] at h; cases h
    | some o => rw [hs] at h; cases h; rfl
  · cases h
    exact getStruct_shape s b

theorem structOf_spec {env : Env} {s : St} (hi : Inv env s) (b : Nat) (kept : Bool) (r : St × Nat)
    (h : structOf s b kept = some r) : Step env s r.1 ∧ r.1.text = s.text ∧ r.1.nStubs = s.nStubs :=
  have sh := structOf_shape s b kept r h
  ⟨.of_struct hi sh, (congrArg St.text sh :), (congrArg St.nStubs sh :)⟩

theorem lookup_spec {env : Env} {s : St} (hi : Inv env s) (o key : Nat) (origin : Option Nat) :
    Step env s (setOrigin (getMocker s o key).1 (getMocker s o key).2 origin) ∧
    (setOrigin (getMocker s o key).1 (getMocker s o key).2 origin).text = s.text ∧
    ((setOrigin (getMocker s o key).1 (getMocker s o key).2 origin).mockers (getMocker s o key).2).target = key % 1000 ∧
    (getMocker s o key).2 < (setOrigin (getMocker s o key).1 (getMocker s o key).2 origin).nMockers ∧
    (setOrigin (getMocker s o key).1 (getMocker s o key).2 origin).nStubs = s.nStubs := by
  obtain ⟨i1, sh, hid, _, _, ht⟩ := getMocker_spec hi o key
  have s2 := (getMocker_step hi o key).trans (setOrigin_step i1 (getMocker s o key).2 origin)
  cases origin with
  | none => exact ⟨s2, (congrArg St.text sh :), ht, hid, (congrArg St.nStubs sh :)⟩
  | some _ =>
    exact ⟨s2, (congrArg St.text sh :), (upd_congr Mocker.target (by rfl) _).trans ht, hid, (congrArg St.nStubs sh :)⟩

theorem applyCb_text (env : Env) (s : St) (id k : Nat) :
    (applyCb env s id k).1.text = (applyImp env s id (.cb k)).1.text ∧ (applyCb env s id k).2 = (applyImp env s id (.cb k)).2 ∧
    (applyCb env s id k).1.cache = (applyImp env s id (.cb k)).1.cache ∧
    (applyCb env s id k).1.nAdapt = (applyImp env s id (.cb k)).1.nAdapt ∧
    (applyCb env s id k).1.adapt = (applyImp env s id (.cb k)).1.adapt ∧
    ((applyCb env s id k).1.mockers id).canceled = ((applyImp env s id (.cb k)).1.mockers id).canceled := by
  unfold applyCb
  cases (applyImp env s id (.cb k)).2 with
  | none => exact ⟨rfl, rfl, rfl, rfl, rfl, upd_congr Mocker.canceled (by rfl) id⟩
  | some e => exact ⟨rfl, rfl, rfl, rfl, rfl, rfl⟩

theorem doApply_spec {env : Env} (he : EnvOk env) {s : St} (hi : Inv env s) (o key k : Nat) (origin : Option Nat) :
    Step env s (doApply env s o key k origin).1 ∧ ∀ f, key % 1000 ≠ f → (doApply env s o key k origin).1.text f = s.text f := by
  obtain ⟨l1, l2, l3, l4, _⟩ := lookup_spec hi o key origin
  refine ⟨l1.trans (applyCb_step he l1.inv _ k fun _ => l4), fun f hf => ?_⟩
  show (applyCb env _ _ k).1.text f = _
  rw [(applyCb_text env _ _ k).1, (applyImp_spec he l1.inv _ _).text f (by rw [l3]; exact Ne.symm hf), l2]

theorem doRet_spec {env : Env} (he : EnvOk env) {s : St} (hi : Inv env s) (o key : Nat) (origin : Option Nat) :
    Step env s (doRet env s o key origin).1 ∧ ∀ f, key % 1000 ≠ f → (doRet env s o key origin).1.text f = s.text f := by
  obtain ⟨l1, l2, l3, l4, _⟩ := lookup_spec hi o key origin
  refine ⟨l1.trans (ret_step he l1.inv _ fun _ => l4), fun f hf => ?_⟩
  unfold doRet
  split
  · exact congrFun l2 f
  · exact ((applyImp_spec he (whens_inv l1.inv _) _ _).text f fun e =>
      hf ((e.trans (whens_target.trans l3)).symm)).trans (congrFun l2 f)

theorem doCancel_spec {env : Env} (he : EnvOk env) {s : St} (hi : Inv env s) (o key : Nat) :
    Step env s (doCancel s o key) ∧ ∀ f, key % 1000 ≠ f → (doCancel s o key).text f = s.text f := by
  obtain ⟨i1, sh, _, _, _, ht⟩ := getMocker_spec hi o key
  have c := cancelMocker_cancels he i1 (getMocker s o key).2
  refine ⟨(getMocker_step hi o key).trans (c.step i1), fun f hf => ?_⟩
  rcases c.text f with e | ⟨_, _, _, rfl, t, _⟩
  · exact e.trans (congrFun (congrArg St.text sh :) f)
  · exact absurd (t.symm.trans ht) (Ne.symm hf)

theorem doKeep_spec {env : Env} {s : St} (hi : Inv env s) (o b key : Nat) :
    Step env s (doKeep s o b key) ∧ (doKeep s o b key).text = s.text := by
  obtain ⟨i1, sh, hid, _⟩ := getMocker_spec hi o key
  refine ⟨(getMocker_step hi o key).trans ⟨i1.congr rfl rfl rfl rfl rfl rfl rfl fun _ => ⟨rfl, rfl⟩, fun ho => ⟨ho.own, ?_⟩, .of_eq rfl⟩,
    (congrArg St.text sh :)⟩
  intro b' key' id h
  by_cases hb : b' = b ∧ key' = key
  · cases (if_pos hb).symm.trans h
    exact hid
  · exact ho.hnd b' key' id ((if_neg hb).symm.trans h)

theorem step_spec {env : Env} (he : EnvOk env) {s : St} (hi : Inv env s) (op : Op) : Step env s (step env s op).1 := by
  cases op with
  | apply b key k origin => exact (doApply_spec he hi b key k origin).1
  | ret b key origin => exact (doRet_spec he hi b key origin).1
  | cancel b key => exact (doCancel_spec he hi b key).1
  | reset b => exact (resetB_cancels he hi b).step hi
  | keep b key => exact (doKeep_spec hi b b key).1
  | applyH b key k =>
    simp only [step]
    cases hh : s.handle b key with
    | none => exact .refl hi
    | some id => exact applyCb_step he hi id k fun ho => ho.hnd b key id hh
  | retH b key =>
    simp only [step]
    cases hh : s.handle b key with
    | none => exact .refl hi
    | some id => exact ret_step he hi id fun ho => ho.hnd b key id hh
  | cancelH b key =>
    simp only [step]
    cases s.handle b key with
    | none => exact .refl hi
    | some id => exact (cancelMocker_cancels he hi id).step hi
  | keepS b => exact .of_struct hi (congrArg (fun t : St => { t with shandle := upd t.shandle b (some (getStruct s b).2) }) (getStruct_shape s b))
  | sapply b key k origin kept =>
    simp only [step]
    cases h : structOf s b kept with
    | none => exact .refl hi
    | some r => exact (structOf_spec hi b kept r h).1.trans (doApply_spec he (structOf_spec hi b kept r h).1.inv r.2 key k origin).1
  | sret b key origin kept =>
    simp only [step]
    cases h : structOf s b kept with
    | none => exact .refl hi
    | some r => exact (structOf_spec hi b kept r h).1.trans (doRet_spec he (structOf_spec hi b kept r h).1.inv r.2 key origin).1
  | scancel b key kept =>
    simp only [step]
    cases h : structOf s b kept with
    | none => exact .refl hi
    | some r => exact (structOf_spec hi b kept r h).1.trans (doCancel_spec he (structOf_spec hi b kept r h).1.inv r.2 key).1
  | skeep b key kept =>
    simp only [step]
    cases h : structOf s b kept with
    | none => exact .refl hi
    | some r => exact (structOf_spec hi b kept r h).1.trans (doKeep_spec (structOf_spec hi b kept r h).1.inv r.2 b key).1
  | other b => exact .refl hi
  | applyBad b key => exact getMocker_step hi b key

theorem behaviour_pristine {env : Env} {s : St} {nCb f : Nat} (h : s.text f = env.pristine f) : behaviour env s nCb f = .orig := by
  simp only [behaviour, h, ↓reduceIte]

theorem Applied.mocked {env : Env} {s : St} {id : Nat} {imp : Imp} {r : St × Option Err} (A : Applied env s id imp r)
    (h : r.2 = none) :
    ∃ a, r.1.text (s.mockers id).target = overwrite (env.pristine (s.mockers id).target) (jumpTo a) ∧
      jumpTo a ≠ (env.pristine (s.mockers id).target).take 13 ∧ Denotes env r.1 a imp ∧
      (env.generic (s.mockers id).target = false → a = impAddr env imp) := by
  obtain ⟨ht, hnop, hd, _⟩ := A.ok h
  refine ⟨_, ht, fun e => ?_, hd, fun hg => ?_⟩
  · -- `checkAlreadyPatch (jumpTo a)` reduces to `true` for symbolic `a`: it reads byte 0, which is 0x90 in every `jumpTo`
    rw [← e] at hnop
    exact Bool.noConfusion hnop
  · unfold dest
    rw [if_neg (by rw [hg]; exact Bool.noConfusion)]

theorem applyCb_mocked {env : Env} (he : EnvOk env) {s : St} (hi : Inv env s) (id k : Nat) (h : (applyCb env s id k).2 = none) :
    ∃ a, (applyCb env s id k).1.text (s.mockers id).target = overwrite (env.pristine (s.mockers id).target) (jumpTo a) ∧
      jumpTo a ≠ (env.pristine (s.mockers id).target).take 13 ∧ Denotes env (applyCb env s id k).1 a (.cb k) ∧
      (env.generic (s.mockers id).target = false → a = impAddr env (.cb k)) := by
  obtain ⟨e1, e2, _, e4, e5, _⟩ := applyCb_text env s id k
  obtain ⟨a, h1, h2, h3, h4⟩ := (applyImp_spec he hi id (.cb k)).mocked (e2.symm.trans h)
  exact ⟨a, by rw [e1]; exact h1, h2, h3.imp_right fun ⟨n, hn, c1, c2⟩ => ⟨n, by rw [e4]; exact hn, c1, by rw [e5]; exact c2⟩, h4⟩

theorem doApply_ok {env : Env} (he : EnvOk env) {s : St} (hi : Inv env s) (o key k : Nat) (origin : Option Nat)
    (h : (doApply env s o key k origin).2 = none) :
    ∃ a, (doApply env s o key k origin).1.text (key % 1000) = overwrite (env.pristine (key % 1000)) (jumpTo a) ∧
      jumpTo a ≠ (env.pristine (key % 1000)).take 13 ∧ Denotes env (doApply env s o key k origin).1 a (.cb k) ∧
      (env.generic (key % 1000) = false → a = env.cbAddr k) := by
  obtain ⟨l1, _, l3, _, _⟩ := lookup_spec hi o key origin
  have := applyCb_mocked he l1.inv _ k h
  rw [l3] at this
  exact this

theorem ret_mocked {env : Env} (he : EnvOk env) {s : St} (hi : Inv env s) (id : Nat)
    (hnew : (if (s.mockers id).hasWhen = true then (s, none) else applyImp env (whens s id) id (.stub s.nStubs)).1.nStubs = s.nStubs + 1)
    (h : (if (s.mockers id).hasWhen = true then (s, none) else applyImp env (whens s id) id (.stub s.nStubs)).2 = none) :
    ∃ a, (if (s.mockers id).hasWhen = true then (s, none) else applyImp env (whens s id) id (.stub s.nStubs)).1.text (s.mockers id).target
        = overwrite (env.pristine (s.mockers id).target) (jumpTo a) ∧
      jumpTo a ≠ (env.pristine (s.mockers id).target).take 13 ∧
      Denotes env (if (s.mockers id).hasWhen = true then (s, none) else applyImp env (whens s id) id (.stub s.nStubs)).1 a (.stub s.nStubs) ∧
      (env.generic (s.mockers id).target = false → a = env.stubAddr s.nStubs) := by
  split at hnew
  · -- with a `When` in place nothing is built and the stub counter stays
    exact absurd hnew (Nat.ne_of_lt (Nat.lt_succ_self _))
  · next hw =>
    rw [if_neg hw] at h ⊢
    have := (applyImp_spec he (whens_inv hi id) id (.stub s.nStubs)).mocked h
    rw [whens_target] at this
    exact this

theorem doRet_ok {env : Env} (he : EnvOk env) {s : St} (hi : Inv env s) (o key : Nat) (origin : Option Nat)
    (hnew : (doRet env s o key origin).1.nStubs = s.nStubs + 1) (h : (doRet env s o key origin).2 = none) :
    ∃ a, (doRet env s o key origin).1.text (key % 1000) = overwrite (env.pristine (key % 1000)) (jumpTo a) ∧
      jumpTo a ≠ (env.pristine (key % 1000)).take 13 ∧ Denotes env (doRet env s o key origin).1 a (.stub s.nStubs) ∧
      (env.generic (key % 1000) = false → a = env.stubAddr s.nStubs) := by
  obtain ⟨l1, _, l3, _, l5⟩ := lookup_spec hi o key origin
  rw [← l5] at hnew ⊢
  rw [← l3]
  exact ret_mocked he l1.inv _ hnew h

theorem cancelMocker_scanceled (s : St) (id : Nat) : (cancelMocker s id).scanceled = s.scanceled :=
  (congrArg St.scanceled (cancelGuard_shape s (s.mockers id).guard) :)

theorem cancelKeys_scanceled (b : Nat) (ks : List Nat) : ∀ s : St, (cancelKeys s b ks).scanceled = s.scanceled := by
  induction ks with
  | nil => intro s; rfl
  | cons k ks ih =>
    intro s
    unfold cancelKeys
    cases s.cache b k with
    | none => exact ih s
    | some id => exact (ih _).trans (cancelMocker_scanceled s id)

theorem applyImp_scanceled (env : Env) (s : St) (id : Nat) (imp : Imp) : (applyImp env s id imp).1.scanceled = s.scanceled := by
  have hu : ∀ f, (unpatchValue s f).scanceled = s.scanceled := fun f => (congrArg St.scanceled (unpatchValue_shape s f) :)
  have hr : (replaceFunc env s (s.mockers id).target (dest env s id imp) (s.mockers id).origin).1.scanceled = s.scanceled := by
    rcases replaceFunc_exits env s (s.mockers id).target (dest env s id imp) (s.mockers id).origin with ⟨_, _, _, e, _⟩ | ⟨_, _, _, e⟩
    · rw [e]; exact hu _
    · rw [e]; exact hu _
  cases hres : replaceFunc env s (s.mockers id).target (dest env s id imp) (s.mockers id).origin with
  | mk s1 res =>
    rw [hres] at hr
    cases res with
    | error e => rw [applyImp_error hres]; exact hr
    | ok g => rw [applyImp_ok hres]; exact hr

/-- no `EnvOk`, no `Inv`: `scanceled_never` is stated for every environment, so this walk cannot go through `step_spec` -/
theorem step_scanceled (env : Env) (s : St) (op : Op) : (step env s op).1.scanceled = s.scanceled := by
  have gm : ∀ (t : St) o key, (getMocker t o key).1.scanceled = t.scanceled ∧ ∀ origin,
      (setOrigin (getMocker t o key).1 (getMocker t o key).2 origin).scanceled = t.scanceled := by
    intro t o key
    have : (getMocker t o key).1.scanceled = t.scanceled := by
      rcases getMocker_cases t o key with e | ⟨_, _, _, e⟩ <;> rw [e] <;> rfl
    exact ⟨this, fun origin => by cases origin <;> exact this⟩
  have ac : ∀ (t : St) id k, (applyCb env t id k).1.scanceled = t.scanceled := by
    intro t id k
    unfold applyCb
    cases (applyImp env t id (.cb k)).2 <;> exact applyImp_scanceled env t id _
  have rt : ∀ (t : St) id, (if (t.mockers id).hasWhen = true then (t, none)
      else applyImp env (whens t id) id (.stub t.nStubs)).1.scanceled = t.scanceled := by
    intro t id
    split
    · rfl
    · exact applyImp_scanceled env _ id _
  have so : ∀ b kept r, structOf s b kept = some r → r.1.scanceled = s.scanceled :=
    fun b kept r h => (congrArg St.scanceled (structOf_shape s b kept r h) :)
  cases op with
  | apply b key k origin => exact (ac _ _ k).trans ((gm s b key).2 origin)
  | ret b key origin => exact (rt _ _).trans ((gm s b key).2 origin)
  | cancel b key => exact (cancelMocker_scanceled _ _).trans (gm s b key).1
  | reset b =>
    show (resetB s b).scanceled = _
    unfold resetB
    cases s.scache b with
    | none => exact cancelKeys_scanceled b _ s
    | some o => exact (cancelKeys_scanceled o _ _).trans (cancelKeys_scanceled b _ s)
  | keep b key => exact (gm s b key).1
  | applyH b key k =>
    simp only [step]
    cases s.handle b key with
    | none => rfl
    | some id => exact ac s id k
  | retH b key =>
    simp only [step]
    cases s.handle b key with
    | none => rfl
    | some id => exact rt s id
  | cancelH b key =>
    simp only [step]
    cases s.handle b key with
    | none => rfl
    | some id => exact cancelMocker_scanceled s id
  | keepS b => exact (congrArg St.scanceled (getStruct_shape s b) :)
  | sapply b key k origin kept =>
    simp only [step]
    cases h : structOf s b kept with
    | none => rfl
    | some r => exact ((ac _ _ k).trans ((gm r.1 r.2 key).2 origin)).trans (so b kept r h)
  | sret b key origin kept =>
    simp only [step]
    cases h : structOf s b kept with
    | none => rfl
    | some r => exact ((rt _ _).trans ((gm r.1 r.2 key).2 origin)).trans (so b kept r h)
  | scancel b key kept =>
    simp only [step]
    cases h : structOf s b kept with
    | none => rfl
    | some r => exact ((cancelMocker_scanceled _ _).trans (gm r.1 r.2 key).1).trans (so b kept r h)
  | skeep b key kept =>
    simp only [step]
    cases h : structOf s b kept with
    | none => rfl
    | some r => exact (gm r.1 r.2 key).1.trans (so b kept r h)
  | other b => rfl
  | applyBad b key => exact (gm s b key).1

end C02L
