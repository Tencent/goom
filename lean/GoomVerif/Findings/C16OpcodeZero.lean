import GoomVerif.Lemmas.C16Vectors
/-! Not an obligation.  `internal/patch/fix_addr_amd64.go:63 fixBlock` processes an instruction only `if ins != nil && ins.Opcode != 0`.
    "A successful decode of a real instruction has `Opcode ≠ 0`" is **false** for the decoder as it is: `00 00` (`ADD [RAX], AL`)
    decodes with `err == nil`, `Op = ADD`, `Len = 2` and `Opcode = 0x00000000` (opcode byte 00, ModRM 00).  Harmless for goom — that
    instruction has no PC-relative field, and it is the all-zero padding pattern — but it means the unconditional statement cannot be
    a theorem.  What fixBlock needs is the weaker `C16.pcrel_opcode_nonzero` (Props/C16.lean), which IS proved, and is also checked on
    every evaluation by the oracle of checks/C16.py. -/
namespace Findings.C16
open X86Dec

theorem opcode_zero_on_success :
    (decode [0x00#8, 0x00]).err = .ok ∧ (decode [0x00#8, 0x00]).op ≠ 0 ∧ (decode [0x00#8, 0x00]).len = 2 ∧
      (decode [0x00#8, 0x00]).opcode = 0 := by
  simp only [C16L.decode_vectors]; decide

end Findings.C16
