import GoomVerif.Props.C19
/-! Finding F13 (property C19): a value containing a slice/map cycle (`s := []interface{}{nil}; s[0] = s`) sends
    `fmt.Sprintf("%v")` into unbounded recursion.  goom calls fmt only from the debug wrapper
    (the two `Consolefc` calls of `interceptDebugInfo` → `arg.SprintV`), so the process dies with a fatal stack overflow only when debug logging
    is open.  With a renderer that does not return on that value the full-strength statement `C19.DebugTransparent`
    is false.  Not an obligation: if the code is repaired the witness stops replaying on the implementation. -/
namespace Findings.C19F13
open Debug C19

/-- the cyclic value, passed as an `interface{}` argument -/
def cyc : Val := .atom { kind := .iface, isNil := false, tok := "z20" }

/-- fmt: total except on the cycle -/
def renderCyc (v : Val) : Option String := if v.tok == "z20" then none else some v.tok

def env : Env :=
  { sig := { params := [.iface], velem := none, nOut := 1, isMethod := false }, kind := .patch, name := "pkg.FA",
    render := renderCyc, orig := fun _ => [intVal 6000] }

def ops : List Op := [.apply { name := "sum0", kind := .sum, k := 0 }, .call [cyc]]

/-- the callback runs and returns in both configurations, but with debug open the process then dies in the log call -/
theorem debug_run_dies :
    (run env (initSt .debug) ops).2.dead = true ∧ (run env (initSt .off) ops).2.dead = false ∧
    obs env (initSt .off) ops = ["ok", "cbsum0(z20)->r:0"] ∧ obs env (initSt .debug) ops = ["ok", "cbsum0(z20)->CRASH"] := by decide +kernel

theorem not_transparent : ¬ DebugTransparent env := by
  intro h
  have := h .debug ops
  rw [debug_run_dies.2.2.2, debug_run_dies.2.2.1] at this
  simp at this

/-- the guard of SprintV does not help: the value is a non-nil interface -/
theorem not_guarded : guardedNil cyc = false := by decide +kernel

end Findings.C19F13
