import GoomVerif.Model.Cursor
/-! Concurrent half: `step_move` reads a `step` as one of six local `Move`s of the acting thread, so `Inv`, `Above` and `Bound` are
preserved by looking at the mover only. -/
namespace C05L
open Cursor Gen.Cursor

section serve
variable {n c : Nat}

theorem serve_eq (n c : Nat) :
    serve n c = if n ≤ 1 then (c, c) else if c ≥ n then (n - 1, c) else (c, c + 1) := by
  simp only [serve, singlePath, exhausted, lastIdx, advance, decide_eq_true_eq]

theorem serve_of_le_one (c : Nat) (h : n ≤ 1) : serve n c = (c, c) := by
  rw [serve_eq, if_pos h]

theorem serve_of_lt (h2 : 2 ≤ n) (h : c < n) : serve n c = (c, c + 1) := by
  rw [serve_eq, if_neg (Nat.not_le.2 h2), if_neg (Nat.not_le.2 h)]

theorem serve_of_ge (h2 : 2 ≤ n) (h : n ≤ c) : serve n c = (n - 1, c) := by
  rw [serve_eq, if_neg (Nat.not_le.2 h2), if_pos h]

theorem cursorAfter_fixed {i : Nat} (h : serve n c = (i, c)) (k : Nat) : cursorAfter n k c = c := by
  induction k with
  | zero => rfl
  | succ k ih => rw [cursorAfter, h]; exact ih

theorem cursorAfter_of_le (h2 : 2 ≤ n) (k : Nat) : ∀ c, c ≤ n → cursorAfter n k c = min (c + k) n := by
  induction k with
  | zero => intro c hc; exact (Nat.min_eq_left hc).symm
  | succ k ih =>
    intro c hc
    rcases Nat.lt_or_ge c n with h | h
    · rw [cursorAfter, serve_of_lt h2 h, ← Nat.add_assoc, Nat.add_right_comm]; exact ih (c + 1) h
    · rw [cursorAfter_fixed (serve_of_ge h2 h), Nat.min_eq_right (Nat.le_trans h (Nat.le_add_right c _))]
      exact Nat.le_antisymm hc h

theorem serve_snd_of_oob (h : n ≤ (serve n c).1) : (serve n c).2 = c := by
  rcases Nat.lt_or_ge 1 n with h2 | h1
  · rcases Nat.lt_or_ge c n with hc | hc
    · rw [serve_of_lt h2 hc] at h; exact absurd h (Nat.not_le.2 hc)
    · rw [serve_of_ge h2 hc]
  · rw [serve_of_le_one c h1]

end serve

section calls
variable {w : When} {m : Matcher} {i : Nat}

theorem getElem?_set_some {α} {l : List α} {i : Nat} {x : α} (h : l[i]? = some x) (y : α) : (l.set i y)[i]? = some y := by
  rw [List.getElem?_set_self', h]; rfl

theorem select_set_cur (h : w.ms[i]? = some m) (c b : Nat) :
    select { w with ms := w.ms.set i { m with cur := c } } b = select w b := by
  have : hit (w.ms.set i { m with cur := c }) b = hit w.ms b := by
    funext j
    unfold hit
    by_cases hij : i = j
    · subst hij; rw [getElem?_set_some h, h]
    · rw [List.getElem?_set_ne hij]
  unfold select
  rw [this]

theorem call_shape (w : When) (a : Nat) :
    (call w a).1 = select w a ∧ (∀ b, select (call w a).2.2 b = select w b) ∧
    ∀ i, select w a ≠ some i → (call w a).2.2.ms[i]? = w.ms[i]? := by
  unfold call
  cases hs : select w a with
  | none => exact ⟨rfl, fun _ => rfl, fun _ _ => rfl⟩
  | some j =>
    dsimp only
    cases hm : w.ms[j]? with
    | none => exact ⟨rfl, fun _ => rfl, fun _ _ => rfl⟩
    | some m =>
      dsimp only
      cases m.results[(serve m.results.length m.cur).1]? with
      | none => exact ⟨rfl, fun _ => rfl, fun _ _ => rfl⟩
      | some v => exact ⟨rfl, select_set_cur hm _, fun i hi => List.getElem?_set_ne fun e => hi (congrArg some e)⟩

def outputsOf (i : Nat) (l : List (Option Nat × Obs)) : List Obs :=
  (l.filter (fun p => p.1 == some i)).map (·.2)

/-- an element of the sequence as an observation (`none` would be Go's index-out-of-range panic) -/
def obsOf : Option Nat → Obs
  | some v => .val v
  | none => .oob

/-- Where the element does not exist `call` leaves the `When` alone; `serve` does not move the cursor there either
    (`serve_snd_of_oob`), so the second clause needs no side condition. -/
theorem call_selected {a : Nat} (hs : select w a = some i) (hm : w.ms[i]? = some m) :
    (call w a).2.1 = obsOf m.results[(serve m.results.length m.cur).1]? ∧
    (call w a).2.2.ms[i]? = some { m with cur := (serve m.results.length m.cur).2 } := by
  simp only [call, hs, hm]
  cases hv : m.results[(serve m.results.length m.cur).1]? with
  | none => rw [serve_snd_of_oob (List.getElem?_eq_none_iff.1 hv)]; exact ⟨rfl, hm⟩
  | some v => exact ⟨rfl, getElem?_set_some hm _⟩

/-- what the `k`-th of the coming calls served by matcher `m` observes -/
def expected (m : Matcher) (k : Nat) : Obs :=
  obsOf m.results[(serve m.results.length (cursorAfter m.results.length k m.cur)).1]?

theorem outputsOf_cons (i : Nat) (p : Option Nat × Obs) (l : List (Option Nat × Obs)) :
    outputsOf i (p :: l) = if p.1 = some i then p.2 :: outputsOf i l else outputsOf i l := by
  by_cases h : p.1 = some i <;> simp [outputsOf, h]

theorem outputsOf_calls (i : Nat) (as : List Nat) : ∀ (w : When) (m : Matcher), w.ms[i]? = some m →
    outputsOf i (calls w as) = (List.range (as.filter (fun a => select w a == some i)).length).map (expected m) := by
  induction as with
  | nil => intro w m _; rfl
  | cons a as ih =>
    intro w m hm
    obtain ⟨hfst, hsel, hframe⟩ := call_shape w a
    rw [calls, outputsOf_cons, hfst, List.filter_cons]
    by_cases hs : select w a = some i
    · obtain ⟨hob, hm'⟩ := call_selected hs hm
      rw [if_pos hs, if_pos (beq_iff_eq.2 hs), ih _ _ hm', funext fun b => congrArg (· == some i) (hsel b), List.length_cons,
        List.range_succ_eq_map, List.map_cons, List.map_map, hob]
      rfl
    · rw [if_neg hs, if_neg (mt beq_iff_eq.1 hs), ih _ m ((hframe i hs).trans hm), funext fun b => congrArg (· == some i) (hsel b)]

end calls
section configuration
variable {w : When} {m : Matcher} {i : Nat}

theorem set_concat {α} (l : List α) (x y : α) : (l ++ [x]).set l.length y = l ++ [y] := by
  rw [List.set_append_right _ _ (Nat.le_refl _), Nat.sub_self]; rfl

/-- the stub `AndReturn` extends: the current condition, or the default when there is none (`(*When).AndReturn`) -/
def target (w : When) : Option Nat :=
  match w.curMatch with
  | some i => some i
  | none => w.dflt

theorem andRet_eq (ht : target w = some i) (hm : w.ms[i]? = some m) (v : Nat) :
    andRet w v = { w with ms := w.ms.set i { m with results := m.results ++ [v] } } := by
  unfold target at ht
  cases hcm : w.curMatch with
  | some j => rw [hcm] at ht; cases ht; simp only [andRet, addResult, hcm, hm]
  | none => rw [hcm] at ht; simp only [andRet, ret, addResult, hcm, ht, hm]

theorem foldl_andRet (vs : List Nat) : ∀ {w : When} {m : Matcher}, target w = some i → w.ms[i]? = some m →
    vs.foldl andRet w = { w with ms := w.ms.set i { m with results := m.results ++ vs } } := by
  induction vs with
  | nil =>
    intro w m _ hm
    obtain ⟨hi, rfl⟩ := List.getElem?_eq_some_iff.1 hm
    rw [List.foldl_nil, List.append_nil, List.set_getElem_self]
  | cons v vs ih =>
    intro w m ht hm
    rw [List.foldl_cons, andRet_eq ht hm,
      ih (w := { w with ms := w.ms.set i { m with results := m.results ++ [v] } }) ht (getElem?_set_some hm _)]
    simp only [List.set_set, List.append_assoc, List.singleton_append]

theorem rets_whenOp (w : When) (c : Cond) (v : Nat) (vs : List Nat) :
    rets (whenOp w c) (v :: vs) = ⟨w.ms ++ [⟨c, v :: vs, 0⟩], w.mlist ++ [w.ms.length], w.dflt, some w.ms.length⟩ := by
  have hret : ret (whenOp w c) v = ⟨w.ms ++ [⟨c, [v], 0⟩], w.mlist ++ [w.ms.length], w.dflt, some w.ms.length⟩ := by
    simp only [ret, whenOp, addResult, List.getElem?_concat_length, set_concat, List.nil_append]
  rw [rets, hret, foldl_andRet vs rfl List.getElem?_concat_length, set_concat]
  rfl

theorem select_append_dead {a : Nat} (hwf : ∀ i ∈ w.mlist, i < w.ms.length) (hm : m.cond.test a = false) (cm : Option Nat) :
    select ⟨w.ms ++ [m], w.mlist ++ [w.ms.length], w.dflt, cm⟩ a = select w a := by
  have hold : w.mlist.find? (hit (w.ms ++ [m]) a) = w.mlist.find? (hit w.ms a) := by
    rw [← List.head?_filter, ← List.head?_filter, List.filter_congr fun i hi => ?_]
    unfold hit; rw [List.getElem?_append_left (hwf i hi)]
  have hnew : hit (w.ms ++ [m]) a w.ms.length = false := by unfold hit; rw [List.getElem?_concat_length]; exact hm
  unfold select
  rw [List.find?_append, hold, List.find?_cons, hnew, List.find?_nil, Option.or_none]

end configuration

/-- what the acting thread does in one event on a cursor at `c`: (its pc before, the event, its pc after, the cursor after),
    with the source constants resolved -/
inductive Move (n c : Nat) : Pc → Ev → Pc → Nat → Prop
  | inv {t} : Move n c .idle (.inv t) .called c
  | load {t} : Move n c .called (.step t) (.loaded c) c
  | single {t v} : n ≤ 1 → Move n c (.loaded v) (.step t) (.done v) c
  | last {t v} : n ≤ v → Move n c (.loaded v) (.step t) (.done (n - 1)) c
  | add {t v} : 2 ≤ n → v < n → Move n c (.loaded v) (.step t) (.done v) (c + 1)
  | resp {t v} : Move n c (.done v) (.resp t v) .idle c

section concurrent
variable {n : Nat} {s s' : St} {e : Ev} {f : Nat → Pc} {t u : Nat} {p p' : Pc} {c c' : Nat}

theorem upd_self : upd f t p t = p := if_pos rfl

theorem upd_ne (h : u ≠ t) : upd f t p u = f u := if_neg h

theorem upd_eq {q : Pc} (h : upd f t p u = q) : u = t ∧ p = q ∨ f u = q := by
  by_cases hut : u = t
  · rw [hut, upd_self] at h; exact .inl ⟨hut, h⟩
  · rw [upd_ne hut] at h; exact .inr h

theorem step_move (h : step n s e = some s') :
    ∃ p p' c', s.pc e.tid = p ∧ Move n s.cur p e p' c' ∧ s' = ⟨c', upd s.pc e.tid p'⟩ := by
  unfold step at h
  cases e with
  | inv t =>
    dsimp only at h
    split at h <;> cases h
    next hp => exact ⟨_, _, _, hp, .inv, rfl⟩
  | step t =>
    dsimp only at h
    split at h
    next hp => cases h; exact ⟨_, _, _, hp, .load, rfl⟩
    next v hp =>
      simp only [singlePath, exhausted, lastIdx, advance, decide_eq_true_eq] at h
      by_cases h1 : n ≤ 1
      · rw [if_pos h1] at h; cases h; exact ⟨_, _, _, hp, .single h1, rfl⟩
      · rw [if_neg h1] at h
        by_cases hv : v ≥ n
        · rw [if_pos hv] at h; cases h; exact ⟨_, _, _, hp, .last hv, rfl⟩
        · rw [if_neg hv] at h; cases h; exact ⟨_, _, _, hp, .add (Nat.lt_of_not_le h1) (Nat.lt_of_not_le hv), rfl⟩
    next => cases h
  | resp t v =>
    dsimp only at h
    split at h
    next r hp =>
      by_cases hr : r = v
      · rw [if_pos hr] at h; cases h; subst hr; exact ⟨_, _, _, hp, .resp, rfl⟩
      · rw [if_neg hr] at h; cases h
    next => cases h

theorem Move.mono (h : Move n c p e p' c') : c ≤ c' := by
  cases h <;> first | exact Nat.le_refl _ | exact Nat.le_succ _

theorem cur_mono_step (h : step n s e = some s') : s.cur ≤ s'.cur := by
  obtain ⟨_, _, _, _, hm, rfl⟩ := step_move h
  exact hm.mono

theorem run_cons {w : List Ev} (h : run n s (e :: w) = some s') : ∃ s1, step n s e = some s1 ∧ run n s1 w = some s' := by
  unfold run at h
  split at h
  · cases h
  · exact ⟨_, ‹_›, h⟩

theorem run_preserves {P : St → Prop} {w2 : List Ev} (w1 : List Ev)
    (hstep : ∀ {s s' e}, e ∈ w1 → P s → step n s e = some s' → P s') :
    ∀ {s : St}, P s → run n s (w1 ++ w2) = some s' → ∃ s1, P s1 ∧ run n s1 w2 = some s' := by
  induction w1 with
  | nil => intro s hP h; exact ⟨s, hP, h⟩
  | cons x w1 ih =>
    intro s hP h
    obtain ⟨sx, hx, h⟩ := run_cons h
    exact ih (fun he => hstep (List.mem_cons_of_mem _ he)) (hstep List.mem_cons_self hP hx) h

/-- a loaded value is an old reading of the cursor, which only grows; a finished call holds an index in range that the cursor
    has passed (`r + 1 ≤ cur`: it added itself, or it loaded `≥ n` and took `n - 1`), from which `after_resp` starts -/
def Inv (n : Nat) (s : St) : Prop :=
  (n ≤ 1 → s.cur = 0) ∧ (∀ t v, s.pc t = .loaded v → v ≤ s.cur) ∧
  (∀ t r, s.pc t = .done r → r < n ∧ (2 ≤ n → r + 1 ≤ s.cur))

theorem inv_init (n : Nat) : Inv n init :=
  ⟨fun _ => rfl, fun _ _ h => Pc.noConfusion h, fun _ _ h => Pc.noConfusion h⟩

theorem inv_step {n : Nat} {s s' : St} {e : Ev} (hn : 1 ≤ n) (hI : Inv n s) (h : step n s e = some s') : Inv n s' := by
  obtain ⟨h0, hl, hd⟩ := hI
  obtain ⟨p, p', c', hp, hm, rfl⟩ := step_move h
  have hc : s.cur ≤ c' := hm.mono
  refine ⟨fun h1 => ?_, fun u v hu => ?_, fun u r hu => ?_⟩
  · cases hm with
    | add h2 _ => exact absurd h1 (Nat.not_le.2 h2)
    | _ => exact h0 h1
  · rcases upd_eq hu with ⟨-, rfl⟩ | hu
    · cases hm; exact Nat.le_refl _
    · exact Nat.le_trans (hl u v hu) hc
  · rcases upd_eq hu with ⟨-, rfl⟩ | hu
    · cases hm with
      | single h1 =>
        have hr : r ≤ 0 := h0 h1 ▸ hl _ _ hp
        exact ⟨Nat.lt_of_le_of_lt hr hn, fun h2 => absurd (Nat.le_trans h2 h1) (by decide)⟩
      | last hv =>
        exact ⟨Nat.sub_lt hn Nat.one_pos, fun _ => by rw [Nat.sub_add_cancel hn]; exact Nat.le_trans hv (hl _ _ hp)⟩
      | add h2 hv => exact ⟨hv, fun _ => Nat.succ_le_succ (hl _ _ hp)⟩
    · exact ⟨(hd u r hu).1, fun h2 => Nat.le_trans ((hd u r hu).2 h2) hc⟩

theorem done_cur {n : Nat} {s : St} (hI : Inv n s) {a va : Nat} (h : s.pc a = .done va) :
    va < n ∧ (2 ≤ n → va + 1 ≤ s.cur) := hI.2.2 a va h

/-- "the cursor has reached `m` and thread `b` has not loaded anything older": from such a state on, everything `b`
    loads is `≥ m` and everything it returns is `≥ min m (n-1)` -/
def Above (n m b : Nat) (s : St) : Prop :=
  m ≤ s.cur ∧
    match s.pc b with
    | .loaded v => m ≤ v
    | .done r => min m (n - 1) ≤ r
    | _ => True

theorem above_step {m b : Nat} (hA : Above n m b s) (h : step n s e = some s') : Above n m b s' := by
  obtain ⟨hc, hb⟩ := hA
  obtain ⟨p, p', c', hp, hm, rfl⟩ := step_move h
  refine ⟨Nat.le_trans hc hm.mono, ?_⟩
  show match upd s.pc e.tid p' b with | .loaded v => m ≤ v | .done r => min m (n - 1) ≤ r | _ => True
  by_cases hbt : b = e.tid
  · rw [hbt, upd_self]
    rw [hbt, hp] at hb
    cases hm with
    | inv => trivial
    | load => exact hc
    | single _ => exact Nat.le_trans (Nat.min_le_left _ _) hb
    | last _ => exact Nat.min_le_right _ _
    | add _ _ => exact Nat.le_trans (Nat.min_le_left _ _) hb
    | resp => trivial
  · rw [upd_ne hbt]; exact hb

theorem resp_above {m b v : Nat} {w : List Ev} (h : run n s w = some s') (hv : Ev.resp b v ∈ w)
    (hc : 2 ≤ n → m ≤ s.cur) (hb : s.pc b = .idle ∨ s.pc b = .called) : min m (n - 1) ≤ v := by
  rcases Nat.lt_or_ge 1 n with h2 | h1
  · obtain ⟨w1, w2, rfl⟩ := List.append_of_mem hv
    obtain ⟨s1, hA, h⟩ := run_preserves (P := Above n m b) w1 (fun _ => above_step)
      ⟨hc h2, by rcases hb with hb | hb <;> rw [hb] <;> trivial⟩ h
    obtain ⟨_, h, -⟩ := run_cons h
    obtain ⟨p, _, _, hp, hm, -⟩ := step_move h
    have := hA.2
    rw [show s1.pc b = p from hp] at this
    cases hm
    exact this
  · exact Nat.le_trans (Nat.min_le_right _ _) (Nat.sub_eq_zero_of_le h1 ▸ Nat.zero_le v)

theorem after_resp (hn : 1 ≤ n) {p r : List Ev} {a va : Nat} (h : run n init (p ++ Ev.resp a va :: r) = some s) :
    ∃ s2, va < n ∧ (2 ≤ n → va + 1 ≤ s2.cur) ∧ s2.pc a = .idle ∧ run n s2 r = some s := by
  obtain ⟨s1, hI, h⟩ := run_preserves p (fun _ => inv_step hn) (inv_init n) h
  obtain ⟨_, h, hr⟩ := run_cons h
  obtain ⟨q, _, _, hq, hm, rfl⟩ := step_move h
  cases hm
  obtain ⟨hlt, hcur⟩ := done_cur hI hq
  exact ⟨⟨s1.cur, upd s1.pc a .idle⟩, hlt, hcur, upd_self, hr⟩

theorem le_of_min_succ {va vb : Nat} (hlt : va < n) (h : min (va + 1) (n - 1) ≤ vb) : va ≤ vb :=
  Nat.le_trans (Nat.le_min.2 ⟨Nat.le_succ va, Nat.le_sub_one_of_lt hlt⟩) h

theorem low_le_one : low n p ≤ 1 := by
  unfold low
  split
  · split <;> decide
  · decide

theorem pending_le (n : Nat) (pc : Nat → Pc) (T : Nat) : pending n pc T ≤ T := by
  induction T with
  | zero => exact Nat.le_refl _
  | succ T ih => exact Nat.add_le_add ih low_le_one

theorem pending_upd_ge (n : Nat) (pc : Nat → Pc) (x : Pc) {T : Nat} (h : T ≤ t) :
    pending n (upd pc t x) T = pending n pc T := by
  induction T with
  | zero => rfl
  | succ T ih => rw [pending, pending, ih (Nat.le_of_succ_le h), upd_ne (Nat.ne_of_lt h)]

theorem pending_upd (n : Nat) (pc : Nat → Pc) (x : Pc) {T : Nat} (h : t < T) :
    pending n (upd pc t x) T + low n (pc t) = pending n pc T + low n x := by
  induction T with
  | zero => cases h
  | succ T ih =>
    rw [pending, pending]
    rcases Nat.lt_or_eq_of_le (Nat.le_of_lt_succ h) with h | rfl
    · rw [upd_ne (Nat.ne_of_gt h), Nat.add_right_comm, ih h, Nat.add_right_comm]
    · rw [upd_self, pending_upd_ge n pc x (Nat.le_refl _), Nat.add_right_comm]

theorem pending_init (n T : Nat) : pending n init.pc T = 0 := by
  induction T with
  | zero => rfl
  | succ T ih => rw [pending, ih]; rfl

/-- the second case is a load below `n`: the mover's share rises with nothing given up, and `bound_step` takes the bound
    from `c ≤ n - 1` and `pending ≤ T` instead -/
theorem Move.low_le (h : Move n c p e p' c') : c' + low n p' ≤ c + low n p ∨ (c < n ∧ c' = c) := by
  cases h with
  | inv => exact .inl (Nat.le_refl _)
  | load =>
    rcases Nat.lt_or_ge c n with hc | hc
    · exact .inr ⟨hc, rfl⟩
    · exact .inl (Nat.le_of_eq (congrArg (c + ·) (if_neg (Nat.not_lt.2 hc))))
  | single _ => exact .inl (Nat.le_add_right _ _)
  | last _ => exact .inl (Nat.le_add_right _ _)
  | add _ hv => exact .inl (Nat.le_of_eq (congrArg (c + ·) (if_pos hv).symm))
  | resp => exact .inl (Nat.le_refl _)

/-- the cursor plus the adds still to come (threads holding a loaded value below `n`) -/
def Bound (n T : Nat) (s : St) : Prop := s.cur + pending n s.pc T ≤ n - 1 + T

theorem bound_step {T : Nat} (hB : Bound n T s) (ht : e.tid < T) (h : step n s e = some s') : Bound n T s' := by
  obtain ⟨p, p', c', hp, hm, rfl⟩ := step_move h
  have hu := pending_upd n s.pc p' ht
  rw [hp] at hu
  show c' + pending n (upd s.pc e.tid p') T ≤ n - 1 + T
  rcases hm.low_le with hle | ⟨hc, rfl⟩
  · -- `hu` trades the mover's old share for its new one, `hle` bounds the new one together with the cursor
    have hB : s.cur + pending n s.pc T ≤ n - 1 + T := hB
    generalize n - 1 + T = N at hB ⊢
    omega
  · exact Nat.add_le_add (Nat.le_sub_one_of_lt hc) (pending_le n _ T)

end concurrent

theorem obs_split {w : List Ev} {l1 l2 : List Ev} {e : Ev} (h : obs w = l1 ++ e :: l2) :
    ∃ w1 w2, w = w1 ++ e :: w2 ∧ obs w2 = l2 := by
  unfold obs at h
  obtain ⟨u1, u2, rfl, -, hu2⟩ := List.filter_eq_append_iff.1 h
  obtain ⟨x1, x2, rfl, -, -, hx2⟩ := List.filter_eq_cons_iff.1 hu2
  exact ⟨u1 ++ x1, x2, by simp only [List.append_assoc], hx2⟩

end C05L
