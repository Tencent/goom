import GoomVerif.Model.Reloc
import GoomVerif.Model.X86Mini
import GoomVerif.Lemmas.C15L
/-! `Gen.Addr.DecodeAddress` / `EncodeAddress` are read as integer arithmetic on the signed reading `sdisp` of a
    little-endian field.  Every bit-vector operand is written `BitVec.ofInt w a`: `+`, `-` and truncation commute with
    `ofInt`, so a computed field is `ofInt w` of the integer wanted, and one range check reads it back. -/
namespace C03L
open Gen.Addr
open X86 (leNat)

abbrev Bytes := Reloc.Bytes

/-- the signed displacement the CPU reads from a little-endian field (ISA reading, not goom's) -/
def sdisp (fld : Bytes) : Int :=
  if 2 * leNat fld < 2 ^ (8 * fld.length) then (leNat fld : Int) else (leNat fld : Int) - (2 ^ (8 * fld.length) : Nat)

theorem ofInt_sub (w : Nat) (a b : Int) : BitVec.ofInt w a - BitVec.ofInt w b = BitVec.ofInt w (a - b) := by
  rw [BitVec.sub_eq_add_neg, ← BitVec.ofInt_neg, ← BitVec.ofInt_add, Int.sub_eq_add_neg]

theorem ofInt_toNat (x : BitVec w) : BitVec.ofInt w (x.toNat : Int) = x := by
  rw [BitVec.ofInt_natCast, BitVec.ofNat_toNat, BitVec.setWidth_eq]

theorem sub_sub_ofInt (x y : BitVec w) (g : Int) :
    x - y - BitVec.ofInt w g = BitVec.ofInt w ((x.toNat : Int) - y.toNat - g) := by
  rw [← ofInt_sub, ← ofInt_sub, ofInt_toNat, ofInt_toNat]

theorem setWidth_ofInt {v w : Nat} (h : v ≤ w) (a : Int) : BitVec.setWidth v (BitVec.ofInt w a) = BitVec.ofInt v a := by
  apply BitVec.eq_of_toInt_eq
  rw [BitVec.toInt_setWidth, BitVec.toNat_ofInt, BitVec.toInt_ofInt,
    Int.toNat_of_nonneg (Int.emod_nonneg _ (by have := Nat.two_pow_pos w; omega)),
    ← Int.emod_bmod (a % _), Int.emod_emod_of_dvd _ (Int.natCast_dvd_natCast.2 (Nat.pow_dvd_pow 2 h)), Int.emod_bmod]

section
variable {s : Int}

theorem toInt_ofInt (w : Nat) (h1 : -2^w ≤ s) (h2 : s < 2^w) : (BitVec.ofInt (w + 1) s).toInt = s :=
  BitVec.toInt_ofInt_eq_self (Nat.succ_pos w) h1 h2

theorem signExtend_ofInt8 (v : Nat) (h1 : -128 ≤ s) (h2 : s < 128) :
    BitVec.signExtend v (BitVec.ofInt 8 s) = BitVec.ofInt v s := by
  show BitVec.ofInt v (BitVec.ofInt 8 s).toInt = _
  rw [toInt_ofInt 7 h1 h2]

end

theorem sdisp_of_toNat {w : Nat} (f : Bytes) (v : BitVec w) (hl : 8 * f.length = w) (h : leNat f = v.toNat) :
    sdisp f = v.toInt := by
  subst hl
  simp only [sdisp, h, BitVec.toInt_eq_toNat_cond]

theorem sdisp_byte (a : BitVec 8) : sdisp [a] = a.toInt := sdisp_of_toNat [a] a rfl (Nat.add_zero _)

theorem sdisp1_range (a : BitVec 8) : -128 ≤ sdisp [a] ∧ sdisp [a] < 128 := by
  have := @BitVec.le_two_mul_toInt 8 a; have := @BitVec.two_mul_toInt_lt 8 a
  rw [sdisp_byte]; omega

/-- `PutInt32` shifts the signed value (Go's `int32 >>`); the byte it keeps lies below the sign fill as long as `k ≤ 24` -/
theorem sw8_sshift (v : BitVec 32) (k : Nat) (hk : k ≤ 24) :
    BitVec.setWidth 8 (BitVec.sshiftRight v k) = BitVec.setWidth 8 (v >>> k) := by
  ext i hi
  have : k + i < 32 := by omega
  simp [BitVec.getElem_setWidth, BitVec.getLsbD_sshiftRight, BitVec.getLsbD_ushiftRight, this]
  omega

section
variable {a b c d : BitVec 8}

theorem put32_ofInt {x : Int} (h1 : -2^31 ≤ x) (h2 : x < 2^31) :
    (LittleEndian_PutInt32 [a,b,c,d] (BitVec.ofInt 32 x)).length = 4 ∧
      sdisp (LittleEndian_PutInt32 [a,b,c,d] (BitVec.ofInt 32 x)) = x := by
  simp only [LittleEndian_PutInt32, List.set, sw8_sshift _ 8 (by decide), sw8_sshift _ 16 (by decide), sw8_sshift _ 24 (by decide)]
  exact ⟨rfl, (sdisp_of_toNat _ _ rfl (C15L.leNat_bytes32 _)).trans (toInt_ofInt 31 h1 h2)⟩

theorem or_shl (x : Nat) (b : BitVec 8) (k : Nat) (hx : x < 2^k) (hk : k ≤ 24) :
    x ||| (BitVec.setWidth 32 b <<< k).toNat = x + b.toNat * 2^k := by
  have hb : b.toNat * 2^k < 2^32 :=
    Nat.lt_of_lt_of_le (Nat.mul_lt_mul_of_pos_right b.isLt (Nat.two_pow_pos k))
      (by rw [← Nat.pow_add]; exact Nat.pow_le_pow_right (by decide) (by omega))
  rw [BitVec.toNat_shiftLeft, BitVec.toNat_setWidth_of_le (by decide), Nat.shiftLeft_eq, Nat.mod_eq_of_lt hb,
    ← Nat.shiftLeft_eq, Nat.or_comm, ← Nat.shiftLeft_add_eq_or_of_lt hx, Nat.add_comm]

theorem int32_leNat : (LittleEndian_Int32 [a,b,c,d]).toNat = leNat [a,b,c,d] := by
  have ha := a.isLt; have hb := b.isLt; have hc := c.isLt
  simp only [LittleEndian_Int32, List.getD_cons_zero, List.getD_cons_succ, leNat, BitVec.toNat_or,
    BitVec.toNat_setWidth_of_le (show 8 ≤ 32 by decide)]
  rw [or_shl _ b 8 ha (by decide), or_shl _ c 16 (by omega) (by decide), or_shl _ d 24 (by omega) (by decide)]
  omega

end

theorem decode1 (a : BitVec 8) :
    ∃ v, DecodeAddress [a] (BitVec.ofNat 64 1) = .ok v ∧ v.toInt = sdisp [a] :=
  ⟨BitVec.signExtend 64 a, rfl, by rw [BitVec.toInt_signExtend_of_le (by decide), sdisp_byte]⟩

theorem decode4 (a b c d : BitVec 8) :
    ∃ v, DecodeAddress [a,b,c,d] (BitVec.ofNat 64 4) = .ok v ∧ v.toInt = sdisp [a,b,c,d] :=
  ⟨BitVec.signExtend 64 (LittleEndian_Int32 [a,b,c,d]), rfl,
    by rw [BitVec.toInt_signExtend_of_le (by decide), sdisp_of_toNat _ _ rfl int32_leNat.symm]⟩

/-- the `opExpand` map of addr.go, as a closed list -/
theorem opExpand_cases (k : BitVec 32) (near : Bytes) (h : opExpand k = some near) :
    (k = 0x74#32 ∧ near = [0x0f#8, 0x84#8]) ∨ (k = 0x76#32 ∧ near = [0x0f#8, 0x86#8]) ∨
    (k = 0x7f#32 ∧ near = [0x0f#8, 0x8f#8]) ∨ (k = 0xeb#32 ∧ near = [0xe9#8]) := by
  by_cases h1 : k = 0x74#32
  · subst h1; exact .inl ⟨rfl, (Option.some.inj h).symm⟩
  by_cases h2 : k = 0x76#32
  · subst h2; exact .inr (.inl ⟨rfl, (Option.some.inj h).symm⟩)
  by_cases h3 : k = 0x7f#32
  · subst h3; exact .inr (.inr (.inl ⟨rfl, (Option.some.inj h).symm⟩))
  by_cases h4 : k = 0xeb#32
  · subst h4; exact .inr (.inr (.inr ⟨rfl, (Option.some.inj h).symm⟩))
  unfold opExpand at h
  rw [if_neg (mt eq_of_beq h1), if_neg (mt eq_of_beq h2), if_neg (mt eq_of_beq h3), if_neg (mt eq_of_beq h4)] at h
  exact nomatch h

theorem opExpand_length {k : BitVec 32} {near : Bytes} (h : opExpand k = some near) : 1 ≤ near.length ∧ near.length ≤ 2 := by
  rcases opExpand_cases k near h with ⟨_, rfl⟩ | ⟨_, rfl⟩ | ⟨_, rfl⟩ | ⟨_, rfl⟩ <;> exact ⟨by decide, by decide⟩

theorem isByteOverflow_spec (v : BitVec 32) : isByteOverflow v = decide (v.toInt > 127 ∨ v.toInt < -128) := by
  have h0 : (0x0#32).toInt = 0 := by decide
  have h1 : (0x7f#32).toInt = 127 := by decide
  have h2 : (0xffffff80#32).toInt = -128 := by decide
  simp only [isByteOverflow, BitVec.slt, h0, h1, h2, Bool.if_false_right, Bool.and_true, decide_eq_true_eq]
  by_cases h : 0 < v.toInt
  · simp only [h, if_true]; congr 1; apply propext; omega
  · simp only [h, if_false]; congr 1; apply propext; omega

section
variable (pre fld : Bytes) (s e : Int)

theorem enc4 : EncodeAddress pre fld (BitVec.ofNat 64 4) (BitVec.ofInt 64 s) (BitVec.ofInt 64 e) =
    .ok (pre ++ LittleEndian_PutInt32 fld (BitVec.ofInt 32 (s + e))) := by
  rw [BitVec.ofInt_add, ← setWidth_ofInt (show 32 ≤ 64 by decide) s, ← setWidth_ofInt (show 32 ≤ 64 by decide) e]; rfl

/-- the rel32 field `EncodeAddress` computes when it widens (`case 1`, the `PutInt32` after the `opExpand` lookup): the
    target less the growth of the field (4 − 1) and of the opcode -/
theorem widened_field (x : Int) (n m : Nat) :
    BitVec.ofInt 32 x - BitVec.setWidth 32 (BitVec.ofNat 64 4 - 1#64) - BitVec.setWidth 32 (BitVec.ofNat 64 n - BitVec.ofNat 64 m) =
      BitVec.ofInt 32 (x - 3 - ((n : Int) - m)) := by
  simp only [← BitVec.ofInt_natCast, ofInt_sub, setWidth_ofInt (show 32 ≤ 64 by decide)]
  rfl

theorem enc1 (b : BitVec 8) (hs1 : -128 ≤ s) (hs2 : s < 128) (hr1 : -2^31 ≤ s + e) (hr2 : s + e < 2^31) :
    EncodeAddress pre [b] (BitVec.ofNat 64 1) (BitVec.ofInt 64 s) (BitVec.ofInt 64 e) =
      if -128 ≤ s + e ∧ s + e < 128 then .ok (pre ++ [BitVec.ofInt 8 (s + e)])
      else match opExpand (BitVec.setWidth 32 (pre.getD 0 0#8)) with
        | some near => .ok (near ++ LittleEndian_PutInt32 [0#8, 0#8, 0#8, 0#8]
            (BitVec.ofInt 32 (s + e - 3 - ((near.length : Int) - pre.length))))
        | none => .error "panic" := by
  have hov : isByteOverflow (BitVec.ofInt 32 (s + e)) = !decide (-128 ≤ s + e ∧ s + e < 128) := by
    rw [isByteOverflow_spec, toInt_ofInt 31 hr1 hr2, ← decide_not]; congr 1; apply propext; omega
  -- unfold `case 1`: the operands become `ofInt` of integers, `hov` turns goom's overflow test into the range test of the
  -- statement, `widened_field` rewrites the new rel32; what is left is the statement up to the name of a bound variable
  simp only [EncodeAddress, beq_self_eq_true, if_true, signExtend_ofInt8 _ hs1 hs2, setWidth_ofInt (show 32 ≤ 64 by decide),
    setWidth_ofInt (show 8 ≤ 64 by decide), ← BitVec.ofInt_add, hov, Bool.not_not, decide_eq_true_eq, toInst, List.replicate,
    List.set, List.length, Nat.zero_add, Nat.reduceAdd, List.nil_append, widened_field]
  rfl

end

open Reloc

/-- **Decoder contract**: what the relocation theorems assume of each decoded instruction.  `len_pos`, `field_in` and
    `width` are of the kind C16 proves of goom's decoder (`C16.len_bounds`, `C16.pcrel_inside` — which also admits a 2-byte
    field; `width` excludes it); `opnz` is `C16.pcrel_opcode_nonzero` demanded of EVERY instruction, not only of those with a
    PC-relative field; `len_eq`, `sign` and `short` are assumed here only.  No theorem derives `WF` from the decoder model. -/
structure WF (i : Ins) : Prop where
  len_eq : i.bytes.length = i.len
  len_pos : 0 < i.len
  opnz : i.opZero = false                      -- not the all-zero encoding `00 00` (which fixBlock would skip)
  field_in : i.pcrelOff ≠ 0 → i.pcrelOff + i.pcrel ≤ i.len
  width : i.pcrelOff ≠ 0 → i.pcrel = 1 ∨ i.pcrel = 4
  sign : i.pcrelOff ≠ 0 → i.backward = true → sdisp i.field ≤ 0
  short : i.pcrelOff ≠ 0 → i.pcrel = 1 → opExpand (BitVec.setWidth 32 (i.pre.getD 0 0#8)) ≠ none → i.pcrelOff = 1

theorem encode_ok {i : Ins} {a : Int} {add : BitVec 64} {r : Bytes} (h : encode i a add = .ok r) :
    EncodeAddress i.pre i.field (BitVec.ofNat 64 i.pcrel) (BitVec.ofInt 64 a) add = .ok r := by
  unfold encode at h
  split at h
  next r' hr' => injection h with h; exact h ▸ hr'
  next => exact nomatch h

theorem bytes_split (i : Ins) : i.bytes = i.pre ++ i.field ++ i.tail := by
  simp only [Ins.pre, Ins.field, Ins.tail]
  rw [← List.drop_drop, List.append_assoc, List.take_append_drop, List.take_append_drop]

section
variable {i : Ins}

theorem split_lengths (hw : WF i) (hp : i.pcrelOff ≠ 0) :
    i.pre.length = i.pcrelOff ∧ i.field.length = i.pcrel ∧ i.tail.length + i.pcrelOff + i.pcrel = i.len := by
  have := hw.field_in hp; have := hw.len_eq
  simp only [Ins.pre, Ins.field, Ins.tail, List.length_take, List.length_drop]; omega

theorem field_cases (hw : WF i) (hp : i.pcrelOff ≠ 0) :
    (i.pcrel = 1 ∧ ∃ a, i.field = [a]) ∨ (i.pcrel = 4 ∧ ∃ a b c d, i.field = [a,b,c,d]) := by
  have hl := (split_lengths hw hp).2.1
  rcases hw.width hp with h | h
  · exact .inl ⟨h, List.length_eq_one_iff.1 (hl.trans h)⟩
  · rw [h] at hl
    match i.field, hl with
    | [a,b,c,d], _ => exact .inr ⟨h, a, b, c, d, rfl⟩

theorem decodeRel_wf (hw : WF i) (hp : i.pcrelOff ≠ 0) :
    decodeRel i = .ok (sdisp i.field) := by
  obtain ⟨v, hv, hvi⟩ : ∃ v, DecodeAddress i.field (BitVec.ofNat 64 i.pcrel) = .ok v ∧ v.toInt = sdisp i.field := by
    rcases field_cases hw hp with ⟨h, a, e⟩ | ⟨h, a, b, c, d, e⟩
    · rw [h, e]; exact decode1 a
    · rw [h, e]; exact decode4 a b c d
  have hs := hw.sign hp
  rw [← hvi] at hs ⊢
  simp only [decodeRel, hv]
  congr 1
  -- goom negates a positive reading of an operand printed as backward: the contract says there is none
  split
  next hc =>
    simp only [Bool.and_eq_true, decide_eq_true_eq] at hc
    have := hs hc.1; omega
  next => rfl

end

/-- how an output instruction relates to its original: everything that is not the PC-relative field is kept — the
    bytes before it (prefixes, opcode, ModRM) verbatim or, for a widened short branch, replaced by the near opcode that
    `opExpand` lists for it — and the field has the same width or 4 bytes. -/
def Shape (i : Ins) (pre' f' : Bytes) : Prop :=
  (pre' = i.pre ∧ f'.length = i.pcrel) ∨
  (i.pcrel = 1 ∧ i.pcrelOff = 1 ∧ opExpand (BitVec.setWidth 32 (i.pre.getD 0 0#8)) = some pre' ∧ f'.length = 4)

section
variable {i : Ins}

theorem Shape.length {pre' f' : Bytes} (hs : Shape i pre' f') (hw : WF i) (hp : i.pcrelOff ≠ 0) :
    i.len ≤ (pre' ++ f' ++ i.tail).length ∧ (pre' ++ f' ++ i.tail).length ≤ i.len + 4 ∧ i.pcrel < (pre' ++ f').length := by
  have htl := (split_lengths hw hp).2.2
  simp only [List.length_append]
  rcases hs with ⟨rfl, hf⟩ | ⟨h1, h2, hx, hf⟩
  · have := (split_lengths hw hp).1; omega
  · have := opExpand_length hx; omega

/-- `EncodeAddress` as used by `fixIns`, in integers: the image of the instruction (`i.tail` appended, as the repaired
    `fixIns` does) has, counted from its end, the old displacement, counted from the instruction's end, plus `e`.  A widening makes the field up
    to 4 less than `sdisp i.field + e`; the margin 8 is the one `C03.Reach` provides -/
theorem encode_spec (hw : WF i) (hp : i.pcrelOff ≠ 0) {add : BitVec 64} {e : Int} {r : Bytes} (he : add.toInt = e)
    (hr1 : -2^31 + 8 ≤ sdisp i.field + e) (hr2 : sdisp i.field + e < 2^31)
    (h : encode i (sdisp i.field) add = .ok r) :
    ∃ pre' f', r = pre' ++ f' ∧ Shape i pre' f' ∧
      sdisp f' + ((pre' ++ f' ++ i.tail).length : Int) = sdisp i.field + i.len + e := by
  have htl := (split_lengths hw hp).2.2
  have hpl := (split_lengths hw hp).1
  replace h := encode_ok h
  rw [← BitVec.ofInt_toInt (x := add), he] at h
  have hr0 : -2^31 ≤ sdisp i.field + e := Int.le_trans (by decide) hr1
  rcases field_cases hw hp with ⟨h1, b, hf⟩ | ⟨h4, a, b, c, d, hf⟩
  · rw [hf] at hr1 hr2 hr0 h ⊢
    have ⟨r1, r2⟩ := sdisp1_range b
    rw [h1, enc1 _ _ _ _ r1 r2 hr0 hr2] at h
    by_cases hfit : -128 ≤ sdisp [b] + e ∧ sdisp [b] + e < 128
    · rw [if_pos hfit] at h
      injection h with h; subst h
      refine ⟨i.pre, _, rfl, .inl ⟨rfl, h1.symm⟩, ?_⟩
      rw [sdisp_byte, toInt_ofInt 7 hfit.1 hfit.2]
      simp only [List.length_append, List.length_cons, List.length_nil]; omega
    · rw [if_neg hfit] at h
      split at h
      next near hx =>
        -- the contract puts a short branch's field right after its one opcode byte
        have hoff := hw.short hp h1 (by rw [hx]; exact nofun)
        have := opExpand_length hx
        obtain ⟨hl, hsd⟩ := @put32_ofInt 0#8 0#8 0#8 0#8 (sdisp [b] + e - 3 - ((near.length : Int) - i.pre.length)) (by omega) (by omega)
        injection h with h; subst h
        refine ⟨near, _, rfl, .inr ⟨h1, hoff, hx, hl⟩, ?_⟩
        rw [hsd]; simp only [List.length_append, hl]; omega
      next => exact nomatch h
  · rw [hf] at hr1 hr2 hr0 h ⊢
    obtain ⟨hl, hsd⟩ := @put32_ofInt a b c d _ hr0 hr2
    rw [h4, enc4] at h
    injection h with h; subst h
    refine ⟨i.pre, _, rfl, .inl ⟨rfl, hl.trans h4.symm⟩, ?_⟩
    rw [hsd]; simp only [List.length_append, hl]; omega

end

end C03L
