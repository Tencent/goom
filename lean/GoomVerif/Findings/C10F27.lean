import GoomVerif.Props.C10
/-!
# F27-c10-symkinds (C10) — `FindVarByName` answers for symbol-table entries that have no address

Unrepaired `symbols_elf.go:72` copies EVERY `.symtab` entry (name, `st_value`) into the `gosym.Sym` list, so the lookup
of a name carried by an undefined reference, a FILE/SECTION marker or a TLS symbol returns `(st_value + slide, nil)` —
observed `(0x0, nil)` for `go.go`, `runtime.tlsg`, `crtstuff.c`, `__gmon_start__`.  `oldSyms` is that conversion.
`Sym.load` models the repaired code (`Sym.addrSyms` leaves those entries out; `C10.non_address_symbol_is_error`).
The check (checks/C10.py) reports such an answer under key `symtab-entry-without-address`; the repair is fixes/F27-c10-symkinds.diff.
-/
namespace C10F27
open Sym

/-- the unrepaired conversion: every entry, whatever it is -/
def oldSyms {N : Type} (ss : List (N × Addr × Bool)) : List (N × Addr) := ss.map (fun e => (e.1, e.2.1))

/-- in the example file of `Props/C10.lean`: `p.c` is an undefined reference with value 0 — the old list finds it (value 0,
    which the caller then turns into "address" `0 + slide`), the repaired list does not -/
theorem old_finds_entry_without_address :
    lookup (oldSyms (C10.exFile.symtab.getD [])) "p.c" = some 0x0#64 ∧
    lookup (addrSyms (C10.exFile.symtab.getD [])) "p.c" = none ∧
    resAfter C10.exEnv [] (.findVar "p.c") = .err .noVar := by
  decide +kernel

end C10F27
