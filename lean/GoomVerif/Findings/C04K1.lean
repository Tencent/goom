import GoomVerif.Props.C04
/-! Known finding K1 (property C04): a configuration that *starts* with `When()` without arguments.

`DefMocker.When(specArg ...interface{})` receives a nil slice, `CreateWhen` reads `args != nil` as "no condition was
given" (when.go:60), so the `Return` that follows becomes the **default** instead of the result of a first, always
true condition; a later `When()` then wins although it was registered second.  Witness: a function without
parameters, `When().Return(1)` then `When().Return(2)`; the property demands 1, the code answers 2.
(The same root makes `f(xs ...T)`: `When().Return(1)` answer 1 for *every* call instead of only `f()`.)
Not an obligation: if the code is repaired this file simply stops describing it. -/
namespace C04
open When

def k1Sig : Sig := { nIn := 0, variadic := false, isMethod := false, numOut := 1 }
def k1Cfg : Config := { dflt := none, conds := [(.when [], 1), (.when [], 2)] }

theorem k1_wf : WFfull k1Sig k1Cfg := ⟨by decide, nofun⟩

/-- the full-strength statement fails at the witness -/
theorem k1_counterexample : ¬ invoke_spec_full := by
  intro h
  obtain ⟨w, hb, hi⟩ := h (· == ·) k1Sig k1Cfg k1_wf
  have hobs : (build k1Sig (k1Cfg.script k1Sig)).bind
      (fun w => (w.invoke (· == ·) (encodeCall k1Sig 0 [])).map Prod.fst) = .ok (.ret 2) := rfl
  rw [hb] at hobs
  -- the property demands 1
  have hspec : specOut (· == ·) k1Sig k1Cfg [] = .ok (.ret 2) := (hi 0 []).symm.trans hobs
  cases hspec

end C04
