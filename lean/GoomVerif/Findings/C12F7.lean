import GoomVerif.Model.ApiC12
import GoomVerif.Model.LwwC12
import GoomVerif.Lemmas.C12L
/-! Counter-examples for the code *as first found* (`C12M.asFound`): refinement of the last-writer-wins reference fails.
    Not obligations — they document defect F7 (repaired by 32dc3bc): a `Return`/`When` given after an `Apply` on a mocker that
    owns a `When` only mutates that `When`, which is not installed.  `asFound` differs from `fixed` in this one place. -/
namespace C12.Findings
open C12M

/-- F7: `Func(fA).Return(1); Func(fA).Apply(k2); Func(fA).Return(3)` — as found, the second Return only mutates the
    mocker's old When and the callback keeps running. -/
theorem f7_return_after_apply_lost :
    behRows (run asFound init [.h (.fn false) (.stub (.ret 1)), .h (.fn false) (.apply 2), .h (.fn false) (.stub (.ret 3))])
      ≠ Lww.run Lww.init [.h (.fn false) (.stub (.ret 1)), .h (.fn false) (.apply 2), .h (.fn false) (.stub (.ret 3))] := by
  decide +kernel

/-- the same on the interface mocker -/
theorem f7_iface :
    behRows (run asFound init [.h .im (.stub (.ret 1)), .h .im (.apply 2), .h .im (.stub (.whenRet 1 3))])
      ≠ Lww.run Lww.init [.h .im (.stub (.ret 1)), .h .im (.apply 2), .h .im (.stub (.whenRet 1 3))] := by
  decide +kernel

end C12.Findings
