import GoomVerif.Props.C18
/-! Known finding `C18-in-item-slice-of-interface-is-tuple`: an `In` alternative whose dynamic type is exactly `[]interface{}`
    is taken as a TUPLE of components (`v.([]interface{})` in `InExpr.Resolve`, arg/expr.go), never as a value: on the real code
    `In([]interface{}{1})` for an `interface{}` parameter rejects `[]interface{}{1}` (which `Equals` of it accepts) and
    `In([]interface{}{1,2})` for a `[]interface{}` parameter fails to resolve.  "In(x1..xn) accepts exactly the union of
    Equals(xi)" is therefore false for slices of interfaces.  The API gives the caller a way out (wrap the slice in a
    one-element tuple), and changing the reading would break every multi-parameter `In`, so it is recorded, not repaired.
    The model answers `unmodelled` for such an item (it never claims the union there).  Not an obligation. -/
namespace C18.Findings
open C18M

theorem in_tuple_item_not_modelled (ty : List Ty) (id : Nat) (es : Vals) (sz : Nat) (rest : Items) :
    resolveItems (.one (.val (some (.slice "[]any" id es, sz))) rest) ty = .unmodelled := by
  simp [resolveItems, Comp.isTupleLike]

end C18.Findings
