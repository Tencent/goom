import GoomVerif.Model.C01Dispatch
import GoomVerif.Props.C15
/-! Every transcribed operation is a sequence of updates of single fields of the state: `Inv.setText`, `Inv.setHeap`,
`Inv.setPatch` and `Inv.setGuard` say when such an update keeps the invariant (their hypotheses are the clauses of `Inv`
that mention the updated entry), and preservation by an operation is their composition. -/
namespace C01L
open C01M

/-- `gob` speaks of every guard ever handed out, so `Unpatch` through a superseded guard keeps the invariant (it un-mocks its
    origin: `C01F.foreign_reset_unpatches`); `reg` and `txt` speak only of the guard registered for `f`, which is why `Apply`
    and `Restore` need `wellUsed` (`C01.stale_restore_is_unsafe`).
    A registered patch whose guard is absent or not applied has a pristine entry. -/
structure Inv (E : Env) (s : PState) : Prop where
  gfresh : ∀ g, s.nguards ≤ g → s.guards g = none
  gob : ∀ g gd, s.guards g = some gd → gd.originBytes = E.pristine gd.origin
  reg : ∀ f p g, s.patches f = some p → p.guard = some g →
    ∃ gd, s.guards g = some gd ∧ gd.origin = f ∧ gd.jumpBytes = jmp E f p.repl
  txt : ∀ f, s.text f = E.pristine f ∨
    ∃ p g gd, s.patches f = some p ∧ p.guard = some g ∧ s.guards g = some gd ∧ gd.applied = true ∧
      s.text f = jmp E f p.repl
  live : ∀ f p, s.patches f = some p → ∃ o, s.heap p.repl = some o
  bound : ∀ f, E.nf ≤ f → s.patches f = none

theorem inv_init (E : Env) : Inv E (init E) :=
  ⟨fun _ _ => rfl, fun _ _ => nofun, fun _ _ _ => nofun, fun _ => .inl rfl, fun _ _ => nofun, fun _ _ => rfl⟩

section
variable {α : Type} {m : Nat → α} {k x : Nat} {v w : α}

theorem upd_same : upd m k v k = v := if_pos rfl
theorem upd_other (h : x ≠ k) : upd m k v x = m x := if_neg h

theorem upd_eq_self (h : m k = v) : upd m k v = m :=
  funext fun x => by
    by_cases hx : x = k
    · rw [hx, upd_same, h]
    · exact upd_other hx

theorem upd_upd : upd (upd m k v) k w = upd m k w :=
  funext fun x => by
    by_cases hx : x = k
    · rw [hx, upd_same, upd_same]
    · rw [upd_other hx, upd_other hx, upd_other hx]

end

section
variable {E : Env} {s : PState}

theorem Inv.isRoot (h : Inv E s) {f : Nat} {p : Patch} (hp : s.patches f = some p) : isRoot E s p.repl = true := by
  have hf : f < E.nf := Nat.lt_of_not_le fun hn => nomatch (h.bound f hn).symm.trans hp
  unfold C01M.isRoot
  rw [List.any_eq_true]
  exact ⟨f, List.mem_range.2 hf, by rw [hp]; exact decide_eq_true rfl⟩

theorem Inv.text_pristine (h : Inv E s) {f : Nat}
    (hn : ∀ p g gd, s.patches f = some p → p.guard = some g → s.guards g = some gd → gd.applied = true → False) :
    s.text f = E.pristine f := by
  rcases h.txt f with ht | ⟨p, g, gd, hp, hg, hgd, ha, -⟩
  · exact ht
  · exact (hn p g gd hp hg hgd ha).elim

theorem Inv.setText (h : Inv E s) (f : Nat) {bs : Bytes}
    (hbs : bs = E.pristine f ∨ ∃ p g gd, s.patches f = some p ∧ p.guard = some g ∧ s.guards g = some gd ∧
      gd.applied = true ∧ bs = jmp E f p.repl) :
    Inv E { s with text := upd s.text f bs } := by
  refine ⟨h.gfresh, h.gob, h.reg, fun x => ?_, h.live, h.bound⟩
  show upd s.text f bs x = _ ∨ ∃ p g gd, _ ∧ _ ∧ _ ∧ _ ∧ upd s.text f bs x = _
  by_cases hx : x = f
  · rw [hx, upd_same]; exact hbs
  · rw [upd_other hx]; exact h.txt x

theorem Inv.setHeap (h : Inv E s) {heap : Addr → Option Obj}
    (hl : ∀ f p, s.patches f = some p → ∃ o, heap p.repl = some o) : Inv E { s with heap := heap } :=
  ⟨h.gfresh, h.gob, h.reg, h.txt, hl, h.bound⟩

/-- the registration of `f` changes only while its entry is pristine (`ht`): `txt` ties a patched entry to the registered
    replacement, and `replaceFunc` unpatches before it registers -/
theorem Inv.setPatch (h : Inv E s) (f : Nat) (q : Option Patch) (ht : s.text f = E.pristine f)
    (hq : ∀ p, q = some p → f < E.nf ∧ (∃ o, s.heap p.repl = some o) ∧
      ∀ g, p.guard = some g → ∃ gd, s.guards g = some gd ∧ gd.origin = f ∧ gd.jumpBytes = jmp E f p.repl) :
    Inv E { s with patches := upd s.patches f q } := by
  refine ⟨h.gfresh, h.gob, fun x p g hx hg => ?_, fun x => ?_, fun x p hx => ?_, fun x hx => ?_⟩
  · by_cases hxf : x = f
    · subst hxf; exact (hq p (upd_same.symm.trans hx)).2.2 g hg
    · exact h.reg x p g ((upd_other hxf).symm.trans hx) hg
  · by_cases hxf : x = f
    · subst hxf; exact .inl ht
    · rcases h.txt x with hx | ⟨p, g, gd, hp, r⟩
      · exact .inl hx
      · exact .inr ⟨p, g, gd, (upd_other hxf).trans hp, r⟩
  · by_cases hxf : x = f
    · subst hxf; exact (hq p (upd_same.symm.trans hx)).2.1
    · exact h.live x p ((upd_other hxf).symm.trans hx)
  · by_cases hxf : x = f
    · subst hxf
      cases q with
      | none => exact upd_same
      | some p => exact absurd (hq p rfl).1 (Nat.not_lt.2 hx)
    · exact (upd_other hxf).trans (h.bound x hx)

/-- `hold`: a guard that is overwritten keeps its origin and jump bytes and stays applied if it was, the three fields through
    which `reg` and `txt` read it; `n` is the new counter, so the same lemma serves `Apply` (`n = nguards`) and `Guard()` (`g = nguards`) -/
theorem Inv.setGuard (h : Inv E s) (g n : Nat) (gd' : Guard) (hn : s.nguards ≤ n) (hg : g < n)
    (hob : gd'.originBytes = E.pristine gd'.origin)
    (hold : ∀ gd, s.guards g = some gd →
      gd'.origin = gd.origin ∧ gd'.jumpBytes = gd.jumpBytes ∧ (gd.applied = true → gd'.applied = true)) :
    Inv E { s with guards := upd s.guards g (some gd'), nguards := n } := by
  have old : ∀ x gd, s.guards x = some gd → ∃ gd₁, upd s.guards g (some gd') x = some gd₁ ∧
      gd₁.origin = gd.origin ∧ gd₁.jumpBytes = gd.jumpBytes ∧ (gd.applied = true → gd₁.applied = true) := by
    intro x gd hx
    by_cases hxg : x = g
    · subst hxg; exact ⟨gd', upd_same, hold gd hx⟩
    · exact ⟨gd, (upd_other hxg).trans hx, rfl, rfl, id⟩
  refine ⟨fun x hx => ?_, fun x gd hx => ?_, fun f p x hp hx => ?_, fun f => ?_, h.live, h.bound⟩
  · exact (upd_other (Nat.ne_of_gt (Nat.lt_of_lt_of_le hg hx))).trans (h.gfresh x (Nat.le_trans hn hx))
  · by_cases hxg : x = g
    · subst hxg; cases upd_same.symm.trans hx; exact hob
    · exact h.gob x gd ((upd_other hxg).symm.trans hx)
  · obtain ⟨gd, hgd, hor, hjb⟩ := h.reg f p x hp hx
    obtain ⟨gd₁, h₁, hor₁, hjb₁, _⟩ := old x gd hgd
    exact ⟨gd₁, h₁, hor₁.trans hor, hjb₁.trans hjb⟩
  · rcases h.txt f with ht | ⟨p, x, gd, hp, hx, hgd, ha, ht⟩
    · exact .inl ht
    · obtain ⟨gd₁, h₁, _, _, ha₁⟩ := old x gd hgd
      exact .inr ⟨p, x, gd₁, hp, hx, h₁, ha₁ ha, ht⟩

end

theorem inv_unpatchG (E : Env) (s : PState) (g : Nat) (h : Inv E s) : Inv E (unpatchG s g) := by
  unfold unpatchG
  split
  next gd hg =>
    split
    · exact h.setText gd.origin (.inl (h.gob g gd hg))
    · exact h
  · exact h

theorem inv_applyG (E : Env) (s : PState) (g : Nat) (h : Inv E s)
    (hu : ∃ f p, s.patches f = some p ∧ p.guard = some g) : Inv E (applyG s g) := by
  obtain ⟨f, p, hp, hg⟩ := hu
  obtain ⟨gd, hgd, hor, hjb⟩ := h.reg f p g hp hg
  rw [← hor] at hp hjb
  simp only [applyG, hgd]
  have h1 := h.setGuard g s.nguards { gd with applied := true } (Nat.le_refl _)
    (Nat.lt_of_not_le fun hn => nomatch (h.gfresh g hn).symm.trans hgd) (h.gob g gd hgd)
    fun gd₀ h₀ => by cases hgd.symm.trans h₀; exact ⟨rfl, rfl, fun _ => rfl⟩
  exact h1.setText gd.origin (.inr ⟨p, g, _, hp, hg, upd_same, rfl, hjb⟩)

theorem inv_restoreG (E : Env) (s : PState) (g : Nat) (h : Inv E s)
    (hu : ∃ f p, s.patches f = some p ∧ p.guard = some g) : Inv E (restoreG s g) := by
  obtain ⟨f, p, hp, hg⟩ := hu
  obtain ⟨gd, hgd, hor, hjb⟩ := h.reg f p g hp hg
  rw [← hor] at hp hjb
  simp only [restoreG, hgd]
  split
  next ha => exact h.setText gd.origin (.inr ⟨p, g, gd, hp, hg, hgd, ha, hjb⟩)
  · exact h

/-- the guard that `unpatchValue(f)` unpatches, if any, is the one registered for `f`, so nothing but `f` is written -/
theorem unpatchFn_eq {E : Env} {s : PState} (h : Inv E s) (f : Nat) :
    unpatchFn s f = { s with text := upd s.text f (E.pristine f), patches := upd s.patches f none } := by
  unfold unpatchFn
  split
  next hp =>
    have ht := h.text_pristine (f := f) fun p _ _ hp' => nomatch hp.symm.trans hp'
    rw [upd_eq_self ht, upd_eq_self hp]
  next p hp =>
    cases hg : p.guard with
    | none =>
      have ht := h.text_pristine (f := f) fun p' g' _ hp' hg' => by
        cases hp.symm.trans hp'; exact nomatch hg.symm.trans hg'
      simp only [upd_eq_self ht]
    | some g =>
      obtain ⟨gd, hgd, hor, _⟩ := h.reg f p g hp hg
      simp only [unpatchG, hgd]
      cases ha : gd.applied with
      | true => simp only [if_true, h.gob g gd hgd, hor]
      | false =>
        have ht := h.text_pristine (f := f) fun p' g' gd' hp' hg' hgd' ha' => by
          cases hp.symm.trans hp'; cases hg.symm.trans hg'; cases hgd.symm.trans hgd'
          exact Bool.noConfusion (ha.symm.trans ha')
        simp only [upd_eq_self ht, Bool.false_eq_true, if_false]

theorem inv_unpatchFn (E : Env) (s : PState) (f : Nat) (h : Inv E s) : Inv E (unpatchFn s f) := by
  rw [unpatchFn_eq h]
  exact (h.setText f (.inl rfl)).setPatch f none upd_same nofun

theorem inv_unpatchAll (E : Env) (s : PState) (h : Inv E s) : Inv E (unpatchAll E s) :=
  List.foldlRecOn _ _ h fun s hs f _ => inv_unpatchFn E s f hs

theorem wellFormedReplace_elim {E : Env} {s : PState} {f : Nat} {v : RValue} {o : Obj} (h : wellFormedReplace E s f v o = true) :
    f < E.nf ∧ ∀ oa, s.heap (getPtr v) = some oa → oa = o := by
  simp only [wellFormedReplace, Bool.and_eq_true, decide_eq_true_eq] at h
  exact ⟨h.1, fun oa ha => by rw [ha] at h; exact of_decide_eq_true h.2⟩

theorem replace_spec (E : Env) (s : PState) (f : Nat) (v : RValue) (o : Obj) (h : Inv E s) :
    Inv E (replace E s f v o).1 ∧
    (∀ x, x ≠ f → (replace E s f v o).1.text x = s.text x ∧ (replace E s f v o).1.patches x = s.patches x) ∧
    (∀ a oa, s.heap a = some oa → (replace E s f v o).1.heap a = some oa) ∧
    ∀ g, (replace E s f v o).2 = .ok g →
      (replace E s f v o).1.patches f = some { repl := getPtr v, guard := some g } ∧
      (replace E s f v o).1.heap (getPtr v) = some o ∧
      Gen.Amd64.checkAlreadyPatch (E.pristine f) = false := by
  by_cases hw : wellFormedReplace E s f v o = true
  · obtain ⟨hf, hnew⟩ := wellFormedReplace_elim hw
    have h0 := h.setHeap (heap := fun a => if a = getPtr v then some o else s.heap a) fun x p hp => by
      split
      · exact ⟨o, rfl⟩
      · exact h.live x p hp
    have h1 := h0.setText f (bs := E.pristine f) (.inl rfl)
    -- every failure after registration leaves: the func value allocated, `f` unpatched and registered without a guard
    have h2 := h1.setPatch f (some ⟨getPtr v, none⟩) upd_same fun p e => by
      cases e; exact ⟨hf, ⟨o, if_pos rfl⟩, nofun⟩
    have hheap : ∀ a oa, s.heap a = some oa → (if a = getPtr v then some o else s.heap a) = some oa := by
      intro a oa ha
      split
      next e => rw [hnew oa (e ▸ ha)]
      · exact ha
    generalize hr : replace E s f v o = r
    simp only [replace, hw, if_true, unpatchFn_eq h0, upd_same, upd_upd] at hr
    by_cases hl : (jmp E f (getPtr v)).length ≥ E.funcSize f
    · rw [if_pos hl] at hr; subst hr
      exact ⟨h2, fun x hx => ⟨upd_other hx, upd_other hx⟩, hheap, nofun⟩
    by_cases hc : Gen.Amd64.checkAlreadyPatch (E.pristine f) = true
    · rw [if_neg hl, if_pos hc] at hr; subst hr
      exact ⟨h2, fun x hx => ⟨upd_other hx, upd_other hx⟩, hheap, nofun⟩
    rw [if_neg hl, if_neg hc] at hr; subst hr
    have h3 := h1.setGuard s.nguards (s.nguards + 1)
      { origin := f, originBytes := E.pristine f, jumpBytes := jmp E f (getPtr v), applied := false }
      (Nat.le_succ _) (Nat.lt_succ_self _) rfl
      fun gd hgd => nomatch (h.gfresh _ (Nat.le_refl _)).symm.trans hgd
    refine ⟨h3.setPatch f _ upd_same fun p e => ?_, fun x hx => ⟨upd_other hx, upd_other hx⟩, hheap, fun g e => ?_⟩
    · cases e; exact ⟨hf, ⟨o, if_pos rfl⟩, fun g e => by cases e; exact ⟨_, upd_same, rfl, rfl⟩⟩
    · cases e; exact ⟨upd_same, if_pos rfl, Bool.eq_false_iff.2 hc⟩
  · rw [replace, if_neg hw]
    exact ⟨h, fun _ _ => ⟨rfl, rfl⟩, fun _ _ ha => ha, nofun⟩

theorem gc_heap_reg {E : Env} {s : PState} (h : Inv E s) (keep : Addr → Bool) {f : Nat} {p : Patch}
    (hp : s.patches f = some p) : (gc E s keep).heap p.repl = s.heap p.repl := by
  show (if isRoot E s p.repl || keep p.repl then s.heap p.repl else none) = _
  rw [h.isRoot hp, Bool.true_or, if_pos rfl]

theorem inv_gc (E : Env) (s : PState) (keep : Addr → Bool) (h : Inv E s) : Inv E (gc E s keep) := by
  refine h.setHeap fun f p hp => ?_
  show ∃ o, (gc E s keep).heap p.repl = some o
  rw [gc_heap_reg h keep hp]
  exact h.live f p hp

theorem inv_step (E : Env) (s : PState) (op : Op) (h : Inv E s) (hu : wellUsed s op) : Inv E (step E s op) := by
  cases op with
  | replace f v o => exact (replace_spec E s f v o h).1
  | apply g => exact inv_applyG E s g h hu
  | unpatch g => exact inv_unpatchG E s g h
  | restore g => exact inv_restoreG E s g h hu
  | unpatchFn f => exact inv_unpatchFn E s f h
  | unpatchAll => exact inv_unpatchAll E s h
  | gc keep => exact inv_gc E s keep h

theorem jmp_inj (E : Env) (f : Nat) (a b : Addr) (h : jmp E f a = jmp E f b) : a = b :=
  C15.amd64_entry_inj (E.entry f) a b h

/-- original bytes that pass the `checkAlreadyPatch` test are never a goom jump (NOP sentinel) -/
theorem jmp_ne_of_unpatched (E : Env) (f : Nat) (to : Addr) (bs : Bytes)
    (h : Gen.Amd64.checkAlreadyPatch bs = false) : jmp E f to ≠ bs := by
  intro e
  have := (C15.amd64_entry_shape (E.entry f) to).2.1
  unfold jmp at e
  rw [e, h] at this
  cases this

end C01L
