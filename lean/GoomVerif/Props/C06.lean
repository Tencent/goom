import GoomVerif.Lemmas.C06L
import GoomVerif.Lemmas.C06HL
/-!
# C06 — method mocks replace exactly the named method, for every instance

Model: `Model/Method.lean` (names, caches, exact lookup over a symbol table that is a *parameter*, patch list).
All theorems quantify over every symbol table, every set of declared methods, every history of builder calls and
every receiver/argument value.  Concrete vectors appear only in `symPrefix_plain_example` and in the `example`s, where the
kernel evaluates them to show that hypotheses can be met.

Trusted / observed, not proved (level: partial): that the Go linker names method code `pkg.T.m` / `pkg.(*T).m`
(`linkName`, compared with `go tool nm` of the probe binary on every run), reflect's method table, the compiler's
wrappers, shape bodies and devirtualisation, and that a jump written at an entry leaves the argument registers alone
(C01/C15).
-/
namespace C06
open Method C06L

/-- **Name construction is injective** in (package, type, pointer?, method) for Go identifiers: the type and
    method names contain no `.` and the type name does not start with `(` (the package part may contain anything).
    So `Get`/`GetX`/`get`, `T`/`T2`, `T`/`*T` and equal names under different package parts never share a symbol.
    (`pkg` is the symbol prefix `linkName` is given, i.e. `symPrefix` of the import path; `symPrefix` itself is not proved
    injective, see `single_mock_exact_any_pkg_partial`.) -/
theorem name_injective {pkg pkg' T T' m m' : Str} {p p' : Bool}
    (hT : '.' ∉ T) (hT' : '.' ∉ T') (hm : '.' ∉ m) (hm' : '.' ∉ m')
    (hp : T.head? ≠ some '(') (hp' : T'.head? ≠ some '(')
    (h : linkName pkg T p m = linkName pkg' T' p' m') : pkg = pkg' ∧ T = T' ∧ p = p' ∧ m = m' := by
  have h1 := objName_inj (recvName_nodot p hT) (recvName_nodot p' hT') hm hm' h
  have h2 := recvName_inj hp hp' h1.2.1
  exact ⟨h1.1, h2.1, h2.2, h1.2.2⟩

example : linkName "x/pa".toList "T".toList true "Get".toList = "x/pa.(*T).Get".toList := by decide +kernel

/-- inside one package name construction is injective for *any* receiver text that does not start with `(` — in particular for
    instantiated generic types `G[int]`, `G[go.shape.int]`, `G[x/y.T]`, whose names contain dots: two different
    instantiations or shapes never share a symbol -/
theorem name_injective_same_pkg {pkg T T' m m' : Str} {p p' : Bool}
    (hm : '.' ∉ m) (hm' : '.' ∉ m') (hp : T.head? ≠ some '(') (hp' : T'.head? ≠ some '(')
    (h : linkName pkg T p m = linkName pkg T' p' m') : T = T' ∧ p = p' ∧ m = m' := by
  have h1 := objName_inj_pkg hm hm' h
  have h2 := recvName_inj hp hp' h1.1
  exact ⟨h2.1, h2.2, h1.2⟩

/-- a method whose name merely extends (or differs in case from) another one has a different symbol -/
theorem prefix_sibling_distinct {pkg T m sfx : Str} {p : Bool} (hm : '.' ∉ m) (hs : '.' ∉ sfx) (hne : sfx ≠ []) :
    linkName pkg T p m ≠ linkName pkg T p (m ++ sfx) := by
  intro h
  have hms : '.' ∉ m ++ sfx := by simp [hm, hs]
  exact hne (List.self_eq_append_right.1 (objName_inj_pkg hm hms h).2)

example : linkName "p".toList "T".toList false "Get".toList ≠ linkName "p".toList "T".toList false "GetX".toList :=
  prefix_sibling_distinct (by decide +kernel) (by decide +kernel) (by decide +kernel)

/-- two instances of `symPrefix`: a path without characters the linker escapes is its own symbol prefix
    (`github.com/tencent/goom/x/pa`); a dot in the last path element is escaped (`gopkg.in/yaml.v2`) -/
theorem symPrefix_plain_example : symPrefix "github.com/tencent/goom/x/pa".toList = "github.com/tencent/goom/x/pa".toList ∧
    symPrefix "gopkg.in/yaml.v2".toList = "gopkg.in/yaml%2ev2".toList := by decide +kernel

/-- `Struct(inst).ExportMethod(m)` builds exactly the linker's name (typeName + bracket rule + objName), provided the
    type name contains no `*` (true for every identifier; NOT for a value instance of `G[*X]`) -/
theorem exportMethod_name_correct (t : Ty) (m : Str) (h : '*' ∉ t.name) :
    exportMethodName t m = linkName (symPrefix t.pkg) t.name t.ptr m := by
  simp [exportMethodName, linkName, bracket_typeName t.ptr h]

/-- `Pkg(pkg).ExportStruct("T" | "*T").Method(m)` builds exactly the linker's name (ExportStruct bracket rule) -/
theorem exportStruct_name_correct (pkg T m : Str) (p : Bool) (h : '*' ∉ T) :
    exportStructName pkg (typeName T p) m = linkName (symPrefix pkg) T p m := by
  simp [exportStructName, linkName, bracket_typeName p h]

/-- **exact-match lookup**: the entry found carries exactly the requested name, and no other name — a prefix-named
    sibling in particular — can be answered with the same entry -/
theorem lookup_exact (syms : List Str) (n : Str) (i : Nat) (h : symIndex syms n = some i) :
    syms[i]? = some n ∧ ∀ n', symIndex syms n' = some i → n' = n :=
  ⟨symIndex_get h, fun _ h' => Option.some.inj ((symIndex_get h').symm.trans (symIndex_get h))⟩

/-- a name that is not in the table is an error, never a near match -/
theorem lookup_absent (syms : List Str) (n : Str) (h : n ∉ syms) (s : BState) (k : Nat) :
    applyAt syms s k n = (s, .notfound n) := by
  simp [applyAt, symIndex_eq_none.2 h]

/-- **patch writes only at the looked-up entry**: a step changes what a call of `e` does only if the symbol the
    step names is exactly the one `e`'s calls enter; every other method, type and instantiation keeps its behaviour
    (that the step keeps `CacheInv`, so that this composes over histories, is the first half of `C06L.step_spec`) -/
theorem step_frame (syms : List Str) (entries : List Entry) (s : BState) (k : Nat) (st : Step) (e : Entry)
    (hI : CacheInv s) (hr : st.isReset = false) (hne : stepName entries st ≠ some e.callSym) :
    behavOf syms (step syms entries s k st).1.patched e = behavOf syms s.patched e := by
  rw [(step_spec syms entries s k st e hI).2]
  simp [hr, hne]

/-- the named method is replaced (the symbol exists in the table) -/
theorem step_hit (syms : List Str) (entries : List Entry) (s : BState) (k : Nat) (st : Step) (e : Entry)
    (hI : CacheInv s) (hn : stepName entries st = some e.callSym) (hmem : e.callSym ∈ syms) :
    behavOf syms (step syms entries s k st).1.patched e = some k := by
  rw [(step_spec syms entries s k st e hI).2]
  have : st.isReset = false := by cases st <;> simp_all [Step.isReset, stepName]
  simp [this, hn, hmem]

/-- reflect resolution names the declared method when receiver kinds match (Go forbids declaring `T.m` and `(*T).m`
    together: `hu`) -/
theorem resolveSM_named (entries : List Entry) (e : Entry) (he : e ∈ entries) (hx : isExported e.m = true)
    (hu : ∀ a ∈ entries, ∀ b ∈ entries, a.pkg = b.pkg → a.name = b.name → a.m = b.m → a = b) :
    resolveSM entries ⟨e.pkg, e.name, e.ptr⟩ e.m = .ok e.callSym := by
  cases hf : methodOf entries ⟨e.pkg, e.name, e.ptr⟩ e.m with
  | none => simpa using List.find?_eq_none.1 hf e he
  | some a =>
    -- whatever `find?` answers agrees with `e` in package, type and method name, so it is `e`
    have hp := List.find?_some (hf : entries.find? _ = some a)
    simp only [decide_eq_true_eq] at hp
    cases hu a (List.mem_of_find?_eq_some hf) e he hp.1 hp.2.1 hp.2.2.1
    simp [resolveSM, hx, hf]

/-- **every history**: after any sequence of `Struct/ExportStruct … Apply` and `Reset` calls on one builder, a call
    of any declared method `e` runs the callback of the *last* step that named exactly `e`'s code (nothing if a
    `Reset` came later or no step named it).  The builder caches are part of the state. -/
theorem run_last_writer (syms : List Str) (entries : List Entry) (e : Entry) :
    ∀ (steps : List Step) (s : BState) (k : Nat), CacheInv s →
      CacheInv (run syms entries s k steps).1 ∧
      behavOf syms (run syms entries s k steps).1.patched e =
        lastWriter syms entries e (behavOf syms s.patched e) k steps := by
  intro steps
  induction steps with
  | nil => intro s k hI; exact ⟨hI, rfl⟩
  | cons st rest ih =>
    intro s k hI
    have h1 := step_spec syms entries s k st e hI
    simpa only [run, lastWriter, ← h1.2] using ih (step syms entries s k st).1 (k + 1) h1.1

theorem inv_init : CacheInv BState.init := cacheInv_init

/-- **isolation over histories**: a method that no step of the history names keeps its original behaviour,
    whatever else was mocked, re-mocked or reset on the same builder -/
theorem untouched_stays_original (syms : List Str) (entries : List Entry) (e : Entry) (steps : List Step)
    (h : ∀ st ∈ steps, stepName entries st ≠ some e.callSym) :
    behavOf syms (run syms entries BState.init 0 steps).1.patched e = none := by
  rw [(run_last_writer syms entries e steps BState.init 0 inv_init).2]
  show lastWriter syms entries e none 0 steps = none
  generalize 0 = k
  induction steps generalizing k with
  | nil => rfl
  | cons st rest ih =>
    have h0 := h st (by simp)
    simpa [lastWriter, h0] using ih (fun st' hs => h st' (by simp [hs])) (k + 1)

/-- **a single exported-method mock, end to end**: `Struct(inst of e's type).Method(e.m).Apply(cb0)` on a fresh
    builder replaces `e` and leaves every declared method with a different (package, receiver-or-shape, pointer?,
    method) tuple of the same package untouched — other methods incl. prefix-named ones, other types, and
    instantiations of a different shape -/
theorem single_mock_exact (syms : List Str) (entries : List Entry) (e e' : Entry)
    (he : e ∈ entries) (hx : isExported e.m = true) (hmem : e.callSym ∈ syms)
    (hu : ∀ a ∈ entries, ∀ b ∈ entries, a.pkg = b.pkg → a.name = b.name → a.m = b.m → a = b)
    (hpk : e'.pkg = e.pkg) (hm : '.' ∉ e.m) (hm' : '.' ∉ e'.m)
    (hp : (if e.shape.isEmpty then e.name else e.shape).head? ≠ some '(')
    (hp' : (if e'.shape.isEmpty then e'.name else e'.shape).head? ≠ some '(')
    (hdiff : ((if e'.shape.isEmpty then e'.name else e'.shape), e'.ptr, e'.m) ≠
             ((if e.shape.isEmpty then e.name else e.shape), e.ptr, e.m)) :
    let s := (run syms entries BState.init 0 [.structMethod ⟨e.pkg, e.name, e.ptr⟩ e.m]).1
    behavOf syms s.patched e = some 0 ∧ behavOf syms s.patched e' = none := by
  refine one_step (by simp [stepName, resolveSM_named entries e he hx hu]) hmem fun hc => ?_
  rw [Entry.callSym, hpk] at hc
  have := name_injective_same_pkg hm' hm hp' hp hc
  exact hdiff (by rw [this.1, this.2.1, this.2.2])

/-- FULL statement for the by-name path; it is FALSE for instantiated generic types (see `C06F.byName_generic_counterexample`
    and KNOWN_FINDINGS C06-K1): `Struct(inst).ExportMethod(m)` replaces the declared method -/
def ByNameReplacesFull : Prop :=
  ∀ (syms : List Str) (e : Entry), '*' ∉ e.name → e.callSym ∈ syms →
    behavOf syms (run syms [e] BState.init 0 [.structExport ⟨e.pkg, e.name, e.ptr⟩ e.m]).1.patched e = some 0

/-- the by-name paths, across packages, with the excluded case as the explicit hypothesis `hg : e.shape = []`
    (ordinary, non-generic types): `ExportStruct` / `ExportMethod` name the declared method `e` and nothing else -/
theorem byname_mock_exact_partial (syms : List Str) (entries : List Entry) (e e' : Entry) (st : Step)
    (hst : st = .exportStruct e.pkg (typeName e.name e.ptr) e.m ∨ st = .structExport ⟨e.pkg, e.name, e.ptr⟩ e.m)
    (hg : e.shape = []) (hg' : e'.shape = []) (hstar : '*' ∉ e.name) (hmem : e.callSym ∈ syms)
    (hT : '.' ∉ e.name) (hT' : '.' ∉ e'.name) (hm : '.' ∉ e.m) (hm' : '.' ∉ e'.m)
    (hp : e.name.head? ≠ some '(') (hp' : e'.name.head? ≠ some '(')
    (hdiff : (symPrefix e'.pkg, e'.name, e'.ptr, e'.m) ≠ (symPrefix e.pkg, e.name, e.ptr, e.m)) :
    let s := (run syms entries BState.init 0 [st]).1
    behavOf syms s.patched e = some 0 ∧ behavOf syms s.patched e' = none := by
  have hn : stepName entries st = some e.callSym := by
    rcases hst with h | h <;> subst h
    · simp [stepName, callSym_plain hg, exportStruct_name_correct _ _ _ _ hstar]
    · simp [stepName, callSym_plain hg, exportMethod_name_correct ⟨e.pkg, e.name, e.ptr⟩ e.m hstar]
  refine one_step hn hmem fun hc => ?_
  rw [callSym_plain hg, callSym_plain hg'] at hc
  have := name_injective hT' hT hm' hm hp' hp hc
  exact hdiff (by rw [this.1, this.2.1, this.2.2.1, this.2.2.2])

/-- the exported-method path across packages (ordinary types; answers "no method of another type" for the reflect
    path where `single_mock_exact` fixes the package): any declared method whose (symbol prefix of the package, type,
    pointer?, method) differs from the mocked one keeps its original behaviour.  *Partial*: `symPrefix` (the linker's
    escaping) is not proved injective, so the hypothesis speaks about the escaped package paths. -/
theorem single_mock_exact_any_pkg_partial (syms : List Str) (entries : List Entry) (e e' : Entry)
    (he : e ∈ entries) (hx : isExported e.m = true) (hmem : e.callSym ∈ syms)
    (hu : ∀ a ∈ entries, ∀ b ∈ entries, a.pkg = b.pkg → a.name = b.name → a.m = b.m → a = b)
    (hg : e.shape = []) (hg' : e'.shape = [])
    (hT : '.' ∉ e.name) (hT' : '.' ∉ e'.name) (hm : '.' ∉ e.m) (hm' : '.' ∉ e'.m)
    (hp : e.name.head? ≠ some '(') (hp' : e'.name.head? ≠ some '(')
    (hdiff : (symPrefix e'.pkg, e'.name, e'.ptr, e'.m) ≠ (symPrefix e.pkg, e.name, e.ptr, e.m)) :
    let s := (run syms entries BState.init 0 [.structMethod ⟨e.pkg, e.name, e.ptr⟩ e.m]).1
    behavOf syms s.patched e = some 0 ∧ behavOf syms s.patched e' = none := by
  refine one_step (by simp [stepName, resolveSM_named entries e he hx hu]) hmem fun hc => ?_
  rw [callSym_plain hg, callSym_plain hg'] at hc
  have := name_injective hT' hT hm' hm hp' hp hc
  exact hdiff (by rw [this.1, this.2.1, this.2.2.1, this.2.2.2])

/-- the adapter of `adaptToShapeFunc` removes exactly the word at the dictionary position, whatever stands before and
    behind it (functions: `pre = []`; methods: `pre = [receiver]`) -/
theorem adapt_drops_dictionary {A : Type} (pre post : List A) (d : A) :
    adapt pre.length (pre ++ d :: post) = pre ++ post := by
  simp [adapt]

/-- **receiver and arguments arrive exactly, for every instance — also for methods of instantiated generic types**:
    whenever `e` is mocked by callback `k`, a call on *any* receiver value with *any* arguments (and any dictionary, for a
    shape body) calls `k` with that receiver first and exactly those arguments behind it (`adaptToShapeFunc` drops the
    dictionary word) -/
theorem receiver_and_args_exact {A : Type} (syms : List Str) (s : BState) (e : Entry) (k : Nat) (dict : A)
    (h : behavOf syms s.patched e = some k) (recv : A) (args : List A) :
    callObs syms s e dict recv args = .mock k (recv :: args) := by
  simp only [callObs, h, delivered, entryArgs]
  split
  · rfl
  · exact congrArg _ (adapt_drops_dictionary [recv] args dict)

/-- a call of an entry that is not patched runs the method's own body on the call's values (the `none` arm of `callObs`) -/
theorem unmocked_runs_original {A : Type} (syms : List Str) (s : BState) (e : Entry) (dict : A)
    (h : behavOf syms s.patched e = none) (recv : A) (args : List A) :
    callObs syms s e dict recv args = .orig (recv :: args) := by
  simp [callObs, h]

/-! ## kept handles: realistic multi-step use (`Model/MethodH.lean`, the model the driver runs)

The handle-level model adds what lies between a lookup and the patch: the per-struct method caches with their
`!Canceled()` test, the baseMocker state (`when`, `canceled`, guard), `Apply` / `Return` / `Returns` / `When..Return` /
`As(..).Return` / `Cancel` on kept handles, `Reset` as "cancel every cached mocker", and the call-time behaviour of the
`reflect.MakeFunc` stub. -/

/-- **isolation for every history of the handle-level model** (lookups through any API path, mocker objects made with the
    exported constructors and re-pointed at another method name with `Method(..)`, kept handles, Apply,
    Return, Returns, When, Cancel, re-arming after Cancel/Reset, Reset — in any order and number): a declared method whose
    code no lookup / constructor / `Method(..)` call of the history names is never patched; `N` is any list containing the
    names those steps name (`stepName`, from the step's text alone). -/
theorem handle_isolation (syms : List Str) (entries : List Entry) (e : Entry) (steps : List MethodH.Step) (N : List Str)
    (hN : ∀ st ∈ steps, ∀ n, MethodH.stepName entries st = some n → n ∈ N)
    (he : e.callSym ∉ N) :
    MethodH.behavOf syms (MethodH.run syms entries MethodH.HState.init 0 steps).1.patched e = none :=
  (C06HL.run_inv hN (.init syms N)).behavOf_none e he

/-- a call of a method that is not patched (on any instance: the model has no instance parameter to depend on) runs its
    original body and changes nothing -/
theorem handle_call_original (syms : List Str) (s : MethodH.HState) (e : Entry)
    (h : MethodH.behavOf syms s.patched e = none) : MethodH.call syms s e = (s, .orig) := by
  simp [MethodH.call, h]

/-- a method promoted from an embedded struct, called through the outer type's method set: when neither the
    compiler-generated wrapper nor the embedded type's method is patched, the original runs -/
theorem promoted_call_original (syms : List Str) (s : MethodH.HState) (e b : Entry)
    (h : MethodH.behavOf syms s.patched e = none) (hb : MethodH.behavOf syms s.patched b = none) :
    MethodH.callVia syms s e (some b) = (s, .orig) := by
  simp [MethodH.callVia, MethodH.call, h, hb]

/-- `h.Apply(cb k)` on a kept handle hits the code its mocker targets: the step answers `ok` and the method named at lookup
    time now enters callback `k` — whatever the mocker's `canceled` flag and When are (goom fixes 50de3fa, 32dc3bc).  The hit
    only; that nothing else is touched is `handle_isolation`. -/
theorem handle_apply_hits (syms : List Str) (entries : List Entry) (s : MethodH.HState) (k h id i : Nat)
    (mk : MethodH.Mocker) (e : Entry)
    (hh : MethodH.aget s.handles h = some id) (hm : MethodH.aget s.mockers id = some mk)
    (hi : symIndex syms mk.target = some i) (he : e.callSym = mk.target) :
    (MethodH.step syms entries s k (.apply h)).2 = .ok ∧
    MethodH.behavOf syms (MethodH.step syms entries s k (.apply h)).1.patched e = some (.cb k) := by
  simp [MethodH.step, MethodH.withMk, hh, hm, MethodH.applyCb, MethodH.applyMk, hi, MethodH.clearWhen,
    MethodH.aget, MethodH.setMk, MethodH.behavOf, symIndex_get hi, he]

/-- **the handle-level model refines the patch-level model**: on every history of one-shot steps (lookup + Apply,
    no Reset in between) its patch list, seen through `toOld`, and its answers are those of `Method.run` — so
    `run_last_writer`, `single_mock_exact`, `byname_mock_exact_partial` speak about the model the driver runs.
    (Reset: the patch-level model restores everything; the handle-level model cancels the cached mockers — that
    these coincide is C02's subject and is compared on every run.) -/
theorem oneshot_refines (syms : List Str) (entries : List Entry) (steps : List Step)
    (hr : ∀ st ∈ steps, st.isReset = false) :
    MethodH.toOld (MethodH.run syms entries MethodH.HState.init 0 (steps.map MethodH.embed)).1 =
      (run syms entries BState.init 0 steps).1 ∧
    (MethodH.run syms entries MethodH.HState.init 0 (steps.map MethodH.embed)).2 =
      (run syms entries BState.init 0 steps).2 :=
  C06HL.run_sim hr (.init entries)

/-! ## guards created first, applied later (`Model/MethodG.lean`, the patch package used directly) -/

/-- **what `Apply` installs is fixed at creation**: in every history
    `pre ++ [g_h := InstanceMethod(T, m, cb)] ++ mid ++ [g_h.Apply()]` — whatever other guards are created, applied or
    unpatched in `mid`, as long as `h` itself is not re-created — the method named at creation enters the callback given
    at creation (number `pre.length`), not the one of a guard created later. -/
theorem guard_installs_creation_callback (syms : List Str) (entries : List Entry) (pre mid : List MethodG.GStep)
    (h : Nat) (t : Ty) (m : Str) (e : Entry)
    (hr : resolveSM entries t m = .ok e.callSym) (hmem : e.callSym ∈ syms)
    (hmid : ∀ st ∈ mid, st.binds h = false) :
    behavOf syms (MethodG.grun syms entries MethodG.GState.init 0
      (pre ++ ([MethodG.GStep.gnew h t m] ++ (mid ++ [MethodG.GStep.gapply h])))).1.patched e = some pre.length := by
  rw [C06GL.grun_append, List.singleton_append]
  simpa using C06GL.created_applied hr hmem hmid

/-! ## behind the wrapper of a generic method (`Model/InnerFn.lean`, `bytecode.GetInnerFunc`) -/

/-- **the code patched for a generic method is the target of the wrapper's first CALL**, when that CALL goes forward
    (`rel ≥ 0`) or to an address in front of the wrapper, whatever non-call, non-padding instructions precede it
    (`pre.all isFill`) and whatever follows it.  (Earlier CALLs that stay inside the wrapper, which `go` skips, are not covered.) -/
theorem inner_is_first_call (pre rest : List InnerFn.Ins) (rel : Int) (hp : pre.all InnerFn.isFill = true)
    (h : rel ≥ 0 ∨ (InnerFn.codeLen pre : Int) + rel < 0) :
    InnerFn.inner (pre ++ InnerFn.Ins.call rel :: rest) = some ((InnerFn.codeLen pre : Int) + rel + 5) := by
  unfold InnerFn.inner
  rw [C06IL.go_fills pre hp]
  simp only [Nat.zero_add, InnerFn.go, Bool.false_eq_true, if_false]
  rcases h with h | h
  · simp [h]
  · have : ¬ rel ≥ 0 := by omega
    simp [this, h]

/-- a wrapper that reaches an INT3 followed by an ordinary instruction, or the prologue fingerprint of the next function,
    without a CALL before it is patched itself -/
theorem inner_none_without_call (pre rest : List InnerFn.Ins) (hp : pre.all InnerFn.isFill = true) :
    InnerFn.inner (pre ++ InnerFn.Ins.int3 :: InnerFn.Ins.fill 1 :: rest) = none ∧
    InnerFn.inner (pre ++ InnerFn.Ins.prologue :: rest) = none := by
  unfold InnerFn.inner
  rw [C06IL.go_fills pre hp, C06IL.go_fills pre hp]
  simp [InnerFn.go]

example : InnerFn.inner [.fill 4, .fill 7, .call (-300), .fill 3, .call 64] = some (-284) ∧
    InnerFn.inner [.fill 4, .call (-3), .fill 7, .call 64, .int3] = some (85) := by decide +kernel

section Examples
def pa : Str := "x/pa".toList
def eGet : Entry := ⟨pa, "T".toList, false, "Get".toList, [], 0⟩
def eGetX : Entry := ⟨pa, "T".toList, false, "GetX".toList, [], 1⟩
def eSet : Entry := ⟨pa, "T".toList, true, "set".toList, [], 1⟩
def eT2 : Entry := ⟨pa, "T2".toList, false, "Get".toList, [], 0⟩
def eGi : Entry := ⟨pa, "G[int]".toList, true, "Get".toList, "G[go.shape.int]".toList, 0⟩
def eGs : Entry := ⟨pa, "G[string]".toList, true, "Get".toList, "G[go.shape.string]".toList, 0⟩
def eGiX : Entry := ⟨pa, "G[int]".toList, true, "GetX".toList, "G[go.shape.int]".toList, 1⟩
def exEntries : List Entry := [eGet, eGetX, eSet, eT2, eGi, eGs]
def exSyms : List Str := exEntries.map Entry.callSym ++ ["x/pa.(*G[int]).Get".toList]

/-- mock `T.Get`; then `(*T).set` by name; `T.GetX`, `T2.Get` and both instantiations stay original -/
example :
    let s := (run exSyms exEntries BState.init 0
      [.structMethod ⟨pa, "T".toList, false⟩ "Get".toList, .exportStruct pa "*T".toList "set".toList]).1
    exEntries.map (behavOf exSyms s.patched) = [some 0, none, some 1, none, none, none] := by decide +kernel

/-- a generic instantiation is patched at its shape body; the instantiation of another shape is untouched -/
example :
    let s := (run exSyms exEntries BState.init 0 [.structMethod ⟨pa, "G[int]".toList, true⟩ "Get".toList]).1
    exEntries.map (behavOf exSyms s.patched) = [none, none, none, none, some 0, none] := by decide +kernel

/-- a prefix of an existing name is an error, not a match; Reset restores -/
example :
    (run exSyms exEntries BState.init 0 [.exportStruct pa "T".toList "Ge".toList]).2 = [.notfound "x/pa.T.Ge".toList] ∧
    (run exSyms exEntries BState.init 0 [.structMethod ⟨pa, "T".toList, false⟩ "Get".toList, .reset]).1.patched = [] := by
  decide +kernel

/-- the hypotheses of `byname_mock_exact_partial` hold for `(*T).set` against `T.Get` -/
example : behavOf exSyms (run exSyms exEntries BState.init 0 [.exportStruct pa "*T".toList "set".toList]).1.patched eSet = some 0 ∧
          behavOf exSyms (run exSyms exEntries BState.init 0 [.exportStruct pa "*T".toList "set".toList]).1.patched eGet = none :=
  byname_mock_exact_partial exSyms exEntries eSet eGet _ (hst := Or.inl rfl) (hg := rfl) (hg' := rfl)
    (hstar := by decide +kernel) (hmem := by decide +kernel) (hT := by decide +kernel) (hT' := by decide +kernel)
    (hm := by decide +kernel) (hm' := by decide +kernel) (hp := by decide +kernel) (hp' := by decide +kernel)
    (hdiff := by decide +kernel)

/-- the hypotheses of `single_mock_exact` hold for `T.Get` against its prefix-named sibling `T.GetX` -/
example : behavOf exSyms (run exSyms exEntries BState.init 0 [.structMethod ⟨pa, "T".toList, false⟩ "Get".toList]).1.patched eGet = some 0 ∧
          behavOf exSyms (run exSyms exEntries BState.init 0 [.structMethod ⟨pa, "T".toList, false⟩ "Get".toList]).1.patched eGetX = none :=
  single_mock_exact exSyms exEntries eGet eGetX (he := by decide +kernel) (hx := by decide +kernel)
    (hmem := by decide +kernel) (hu := by decide +kernel) (hpk := rfl) (hm := by decide +kernel) (hm' := by decide +kernel)
    (hp := by decide +kernel) (hp' := by decide +kernel) (hdiff := by decide +kernel)
/-- kept handle: Return, Cancel, Return again on the SAME handle → the stub answers the new value on every
    call; the prefix-named sibling is untouched; a by-name handle: As.Return → Apply → As.Return ends on the last value -/
example :
    let tGet : Ty := ⟨pa, "T".toList, false⟩
    let s := (MethodH.run exSyms exEntries MethodH.HState.init 0
      [.look 0 (.structMethod tGet "Get".toList), .ret 0 6, .cancel 0, .ret 0 7,
       .look 1 (.exportStruct pa "*T".toList "set".toList), .ret 1 8, .apply 1, .ret 1 9]).1
    (MethodH.call exSyms s eGet).2 = .val 7 ∧ (MethodH.call exSyms s eGetX).2 = .orig ∧
    (MethodH.call exSyms s eSet).2 = .val 9 := by decide +kernel

/-- the hypotheses of `handle_isolation` hold for that history and the never-named `T2.Get` -/
example :
    MethodH.behavOf exSyms (MethodH.run exSyms exEntries MethodH.HState.init 0
      [.look 0 (.structMethod ⟨pa, "T".toList, false⟩ "Get".toList), .ret 0 6, .cancel 0, .ret 0 7, .reset, .apply 0]).1.patched eT2 = none :=
  handle_isolation exSyms exEntries eT2 _ [eGet.callSym] (by decide +kernel) (by decide +kernel)
/-- two guards created, then both applied: each method gets its own callback -/
example :
    let s := (MethodG.grun exSyms exEntries MethodG.GState.init 0
      [.gnew 0 ⟨pa, "T".toList, false⟩ "Get".toList, .gnew 1 ⟨pa, "T2".toList, false⟩ "Get".toList, .gapply 0, .gapply 1]).1
    exEntries.map (behavOf exSyms s.patched) = [some 0, none, none, some 1, none, none] := by decide +kernel

/-- the hypotheses of `guard_installs_creation_callback` hold with a guard for `T2.Get` created and applied in between -/
example : behavOf exSyms (MethodG.grun exSyms exEntries MethodG.GState.init 0
      ([] ++ ([MethodG.GStep.gnew 0 ⟨pa, "T".toList, false⟩ "Get".toList] ++
        ([.gnew 1 ⟨pa, "T2".toList, false⟩ "Get".toList, .gapply 1] ++ [MethodG.GStep.gapply 0])))).1.patched eGet = some 0 :=
  guard_installs_creation_callback exSyms exEntries [] _ 0 _ _ eGet
    (resolveSM_named exEntries eGet (by decide +kernel) (by decide +kernel) (by decide +kernel)) (by decide +kernel) (by decide +kernel)
/-- hypotheses of `single_mock_exact_any_pkg_partial`: `x/pa.T.Get` mocked, `y.v2.T.Get` (another package, escaped prefix) untouched -/
example :
    let eOther : Entry := ⟨"m/y.v2".toList, "T".toList, false, "Get".toList, [], 0⟩
    behavOf (exSyms ++ [eOther.callSym]) (run (exSyms ++ [eOther.callSym]) (exEntries ++ [eOther]) BState.init 0
      [.structMethod ⟨pa, "T".toList, false⟩ "Get".toList]).1.patched eOther = none :=
  (single_mock_exact_any_pkg_partial _ _ eGet _ (he := by decide +kernel) (hx := by decide +kernel)
    (hmem := by decide +kernel) (hu := by decide +kernel) (hg := rfl) (hg' := rfl) (hT := by decide +kernel)
    (hT' := by decide +kernel) (hm := by decide +kernel) (hm' := by decide +kernel) (hp := by decide +kernel)
    (hp' := by decide +kernel) (hdiff := by decide +kernel)).2
/-- a method of an instantiated generic type: the shape body is entered with (receiver, dictionary, arguments), the
    callback is called with (receiver, arguments) -/
example : delivered eGiX 'D' 'R' ['a', 'b'] = ['R', 'a', 'b'] ∧ entryArgs eGiX 'D' 'R' ['a', 'b'] = ['R', 'D', 'a', 'b'] := by
  decide +kernel
end Examples

end C06
