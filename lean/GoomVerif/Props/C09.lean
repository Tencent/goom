import GoomVerif.Lemmas.C09L
/-!
# C09 — stubbed values reach callers unaltered and typed as the function declares

`Convert.toValue / I2V / V2I / isZeroVal / returnE2E` transcribe `arg/value.go` and the path from `Return(...)` to the
caller; `Convert.K` holds the three kind lists and the form of `cast` that are in `arg/value.go` **today**
(`Gen/C09Kinds.lean` is regenerated from the source on every run).  Every theorem quantifies over all declared
types `out`, all supplied dynamic types `t` and all payloads `x`.
-/
namespace C09
open Convert C09L

/-! ### example universe (used only by the `example`s that show the hypotheses are satisfiable) -/
def tInt64 : Ty := .prim .int64
def tS1 : Ty := .named "S1" [] ["Error|()(string)"] (.strct [] [] (.cons "A" tInt64 (.cons "B" (.prim .int32) (.cons "C" (.prim .bool) .nil))))
def tS1b : Ty := .named "S1b" [] [] (.strct [] [] (.cons "X" tInt64 (.cons "Y" (.prim .int32) (.cons "Z" (.prim .bool) .nil))))
def tS2 : Ty := .named "S2" [] [] (.strct [] [] (.cons "A" tInt64 (.cons "B" tInt64 (.cons "C" tInt64 .nil))))
def tError : Ty := .named "error" ["Error|()(string)"] [] (.iface ["Error|()(string)"])
def tFunc : Ty := .func "()()"
def vS1 : Val := .agg (.cons (.int 7) (.cons (.int (-2)) (.cons (.bool true) .nil)))

/-! ## clause 1 — nil becomes the typed zero value for pointer, interface, slice, map, channel and func results -/

/-- `toValue(nil, out)` is `reflect.Zero(out)`: typed as declared, `isZero` holds of it, and its payload is the nil word
    or the nil interface (that the Value is well flagged is `C09L.zeroRV_wellFlagged`) -/
theorem nil_is_typed_zero (out : Ty) (h : Nilable out.kind) :
    toValue K none out = .ok (zeroRV out) ∧ (zeroRV out).ty = out ∧ isZeroVal (zeroRV out).val = true ∧
      ((zeroRV out).val = .nilp ∨ (zeroRV out).val = .ifaceNil) := by
  refine ⟨toValue_nil_ok h, rfl, zeroVal_isZero out, ?_⟩
  show zeroVal out = .nilp ∨ zeroVal out = .ifaceNil
  rw [(nilable_shape out h).2.1]
  split
  · exact .inr rfl
  · exact .inl rfl

example : Nilable tFunc.kind ∧ Nilable tError.kind ∧ Nilable (Ty.ptr tS1).kind := by decide +kernel

/-- `Return(nil)` on a function with such a result: the caller receives exactly the zero value of the declared type -/
theorem nil_result_at_caller (out : Ty) (h : Nilable out.kind) :
    returnE2E K [none] [out] = .got [zeroRV out] :=
  returnE2E_of_ok (toValue_nil_ok h) rfl (zeroRV_wellFlagged out) (nilable_size_pos h)

/-- so a nil `error` (any interface result) compares equal to nil at the caller: the received interface is the nil
    interface, and `Interface()` of it is the untyped nil -/
theorem nil_error_is_nil_at_caller (out : Ty) (h : out.kind = .iface) :
    returnE2E K [none] [out] = .got [⟨out, .iface, true, .ifaceNil⟩] ∧
      RV.toBoxed ⟨out, .iface, true, .ifaceNil⟩ = none := by
  refine ⟨?_, rfl⟩
  rw [nil_result_at_caller out (.inr (.inl h))]
  simp only [zeroRV, h, iface_not_direct h, zeroVal_iface h, Bool.not_false]

example : tError.kind = .iface := by decide +kernel

/-! ## clause 2 — concrete values are boxed into interface results with their dynamic type intact -/

/-- a non-nil value whose type implements the declared interface type is stored boxed, delivered to the caller boxed, and
    `Interface()` of what arrives is the supplied (dynamic type, payload) -/
theorem boxed_keeps_dynamic_type (t : Ty) (x : Val) (out : Ty) (hk : out.kind = .iface)
    (himp : implements out t = true) (hctx : isIContextPtr t = false) :
    toValue K (some (t, x)) out = .ok ⟨out, .iface, true, .ifaceOf t x⟩ ∧
    returnE2E K [some (t, x)] [out] = .got [⟨out, .iface, true, .ifaceOf t x⟩] ∧
    RV.toBoxed ⟨out, .iface, true, .ifaceOf t x⟩ = some (t, x) := by
  have htv : toValue K (some (t, x)) out = .ok ⟨out, .iface, true, .ifaceOf t x⟩ := by
    rw [toValue_iface x hk, if_neg (Bool.eq_false_iff.1 hctx), if_pos himp]
  exact ⟨htv, returnE2E_of_ok htv rfl (boxed_wellFlagged hk _) (nilable_size_pos (.inr (.inl hk))), rfl⟩

example : tError.kind = .iface ∧ implements tError (.ptr tS1) = true ∧ isIContextPtr (.ptr tS1) = false := by decide +kernel

/-- a value whose type does not implement the declared interface is refused at configuration time -/
theorem nonimplementing_rejected (t : Ty) (x : Val) (out : Ty) (hk : out.kind = .iface)
    (himp : implements out t = false) (hctx : isIContextPtr t = false) :
    toValue K (some (t, x)) out = .error .panicAssign ∧
    returnE2E K [some (t, x)] [out] = .cfgPanic .panicAssign := by
  have htv : toValue K (some (t, x)) out = .error .panicAssign := by
    rw [toValue_iface x hk, if_neg (Bool.eq_false_iff.1 hctx), if_neg (Bool.eq_false_iff.1 himp)]
  exact ⟨htv, returnE2E_of_error htv⟩

example : tError.kind = .iface ∧ implements tError tS1 = false ∧ isIContextPtr tS1 = false := by decide +kernel

/-! ## clause 3 — a struct or struct pointer of identical layout may stand in -/

/-- identical layout: the two types are equal once every type name and field name is erased -/
def LayoutEq (a b : Ty) : Prop := erase a = erase b
instance (a b : Ty) : Decidable (LayoutEq a b) := by unfold LayoutEq; infer_instance

theorem layoutEq_size (a b : Ty) (h : LayoutEq a b) : a.size = b.size := by
  obtain ⟨_, _, hsa, _⟩ := erase_layout a
  obtain ⟨_, _, hsb, _⟩ := erase_layout b
  rw [← hsa, ← hsb, h]

/-- What goom actually checks: ANY value of the same size, kind and representation class is accepted for
    a struct / pointer result and retyped with its payload untouched — identical layout (`LayoutEq`, next theorem) is one
    way to meet the three equalities, flattened-identical layouts (`struct{In S3; T int8}` for `struct{P,Q int32; T int8}`)
    another; for pointers the pointee is not looked at at all.  The property only says such a stand-in MAY be given. -/
theorem same_size_kind_repr_accepted (t : Ty) (x : Val) (out : Ty) (hne : t ≠ out)
    (hk : out.kind = .strct ∨ out.kind = .ptr) (hsz : t.size = out.size) (hkind : t.kind = out.kind)
    (hdir : t.isDirect = out.isDirect) (hctx : isIContextPtr out = false) :
    toValue K (some (t, x)) out = .ok ⟨out, out.kind, !out.isDirect, x⟩ ∧
    (out.size ≠ 0 → returnE2E K [some (t, x)] [out] = .got [⟨out, out.kind, !out.isDirect, x⟩]) := by
  have htv : toValue K (some (t, x)) out = .ok ⟨out, out.kind, !out.isDirect, x⟩ := by
    rw [toValue_standin x hne hk, if_neg (not_not_intro hsz), if_neg (Bool.eq_false_iff.1 hctx), hkind, hdir]
  exact ⟨htv, returnE2E_of_ok htv rfl (asIs_wellFlagged out x)⟩

example : tS1b ≠ tS1 ∧ tS1b.size = tS1.size ∧ tS1b.kind = tS1.kind ∧ tS1b.isDirect = tS1.isDirect := by
  decide +kernel

/-- the stand-in is accepted and retyped: declared type, payload untouched, flag word still consistent -/
theorem layout_standin_accepted (t : Ty) (x : Val) (out : Ty) (hne : t ≠ out)
    (hk : out.kind = .strct ∨ out.kind = .ptr) (hl : LayoutEq t out) (hctx : isIContextPtr out = false) :
    toValue K (some (t, x)) out = .ok ⟨out, out.kind, !out.isDirect, x⟩ ∧
    (⟨out, out.kind, !out.isDirect, x⟩ : RV).wellFlagged = true := by
  obtain ⟨hkt, _, _, hdt⟩ := erase_layout t
  obtain ⟨hko, _, _, hdo⟩ := erase_layout out
  have hkind : t.kind = out.kind := by rw [← hkt, ← hko, hl]
  have hdir : t.isDirect = out.isDirect := by rw [← hdt, ← hdo, hl]
  exact ⟨(same_size_kind_repr_accepted t x out hne hk (layoutEq_size t out hl) hkind hdir hctx).1,
    asIs_wellFlagged out x⟩

example : tS1b ≠ tS1 ∧ tS1.kind = .strct ∧ LayoutEq tS1b tS1 ∧ isIContextPtr tS1 = false := by
  decide +kernel
example : Ty.ptr tS1b ≠ Ty.ptr tS1 ∧ (Ty.ptr tS1).kind = .ptr ∧ LayoutEq (.ptr tS1b) (.ptr tS1) := by
  decide +kernel

/-- the layout stand-in reaches the caller as a value of the declared type with the payload unchanged -/
theorem layout_standin_delivered (t : Ty) (x : Val) (out : Ty) (hne : t ≠ out)
    (hk : out.kind = .strct ∨ out.kind = .ptr) (hl : LayoutEq t out) (hctx : isIContextPtr out = false)
    (hsz : out.size ≠ 0) :
    returnE2E K [some (t, x)] [out] = .got [⟨out, out.kind, !out.isDirect, x⟩] := by
  have h := layout_standin_accepted t x out hne hk hl hctx
  exact returnE2E_of_ok h.1 rfl h.2 hsz

example : tS1b ≠ tS1 ∧ LayoutEq tS1b tS1 ∧ tS1.size ≠ 0 ∧ tS1.size = 16 := by
  decide +kernel

/-! ## clause 4 — a value whose size differs from the declared type is rejected, not reinterpreted -/

/-- a non-nil value of another size given for a non-interface result is refused at configuration time — with the size
    error, or with the `IContext` refusal where that test comes first — and no call delivers anything -/
theorem size_mismatch_rejected (t : Ty) (x : Val) (out : Ty) (hs : t.size ≠ out.size) (hk : out.kind ≠ .iface) :
    (toValue K (some (t, x)) out = .error .errSize ∨ toValue K (some (t, x)) out = .error .panicIContext) ∧
    (∀ rs, returnE2E K [some (t, x)] [out] ≠ .got rs) := by
  have htv : toValue K (some (t, x)) out = .error .errSize ∨ toValue K (some (t, x)) out = .error .panicIContext := by
    by_cases hc : t ≠ out ∧ (out.kind = .strct ∨ out.kind = .ptr)
    · rw [toValue_standin x hc.1 hc.2, if_pos hs]
      exact .inl rfl
    · rw [toValue_ordinary x hc, if_neg hk, if_pos hs]
      split
      · exact .inr rfl
      · exact .inl rfl
  refine ⟨htv, fun rs => ?_⟩
  rcases htv with h | h <;> rw [returnE2E_of_error h] <;> exact CallRes.noConfusion

example : tS2.size ≠ tS1.size ∧ tS1.kind ≠ .iface := by decide +kernel

/-! ## the global statement — whatever is delivered has the declared type and the supplied content -/

/-- every accepted conversion keeps the payload (as is, or boxed with its dynamic type); nil becomes the zero value -/
theorem toValue_ok_payload (r : Boxed) (out : Ty) (v : RV) (h : toValue K r out = .ok v) :
    match r with
    | none => v = zeroRV out
    | some (t, x) =>
        (out.kind ≠ .iface ∧ v.val = x ∧ (v.ty = t ∨ v.ty = out) ∧ v.ty.size = out.size) ∨
        (out.kind = .iface ∧ v = ⟨out, .iface, true, .ifaceOf t x⟩) := by
  cases r with
  | none =>
    simp only [toValue] at h
    split at h
    · exact (Except.ok.inj h).symm
    · cases h
  | some p =>
    obtain ⟨t, x⟩ := p
    rcases toValue_ok_cases h with ⟨rfl, _, hk, _, _⟩ | ⟨rfl, hk⟩ | ⟨rfl, hk, hs⟩
    · exact .inl ⟨standin_not_iface hk, rfl, .inr rfl, rfl⟩
    · exact .inr ⟨hk, rfl⟩
    · exact .inl ⟨hk, rfl, .inl rfl, hs⟩

/-- content of a delivered value `a` relative to what was supplied for a result declared `o`.  `o.size = 0`: `callReflect`
    does not copy a zero-size result, the caller gets `zeroRV o` whatever was supplied (first arm of `deliver1`). -/
def Content (r : Boxed) (o : Ty) (a : RV) : Prop :=
  a.ty = o ∧
  (o.size = 0 ∨
    match r with
    | none => a.val = zeroVal o
    | some (t, x) => a.val = x ∨ a.val = .ifaceOf t x)

/-- one position: a converted value that passes `reflect.MakeFunc`'s result check arrives with the declared type
    and the supplied content -/
theorem deliver1_content (r : Boxed) (out : Ty) (w a : RV) (hw : toValue K r out = .ok w)
    (ha : deliver1 w out = some a) : Content r out a := by
  have hp := toValue_ok_payload r out w hw
  have hw' : (out.kind = .iface → w.ty = out) ∧
      match (generalizing := false) r with
      | none => w.val = zeroVal out
      | some (t, x) => w.val = x ∨ w.val = .ifaceOf t x := by
    cases r with
    | none => cases (hp : w = zeroRV out); exact ⟨fun _ => rfl, rfl⟩
    | some p =>
      obtain ⟨t, x⟩ := p
      rcases hp with ⟨hk, hx, _⟩ | ⟨_, rfl⟩
      · exact ⟨fun h => absurd h hk, .inl hx⟩
      · exact ⟨fun _ => rfl, .inr rfl⟩
  simp only [deliver1] at ha
  by_cases hz : out.size = 0
  · rw [if_pos hz] at ha
    cases ha
    exact ⟨rfl, .inl hz⟩
  · rw [if_neg hz] at ha
    by_cases hda : directlyAssignable out w.ty = true
    · rw [if_pos hda] at ha
      cases ha
      exact ⟨rfl, .inr hw'.2⟩
    · rw [if_neg hda] at ha
      by_cases himp : implements out w.ty = true
      · -- boxing at delivery needs an interface result, and then `toValue` has already produced type `out`
        exact absurd (hw'.1 (implements_kind out w.ty himp) ▸ directlyAssignable_self out) hda
      · rw [if_neg himp] at ha
        cases ha

/-- **Delivered means declared type and unaltered content.**  If a call of the stub returns at all, the value the
    caller receives has the declared type, and its content is the zero value (nil supplied), the supplied payload,
    or the supplied payload boxed with its dynamic type (interface result).  Results of size 0 carry no content. -/
theorem delivered_typed_and_unaltered (r : Boxed) (out : Ty) (v : RV) (h : returnE2E K [r] [out] = .got [v]) :
    Content r out v := by
  obtain ⟨w, a, hw, _, ha, hv⟩ := returnE2E_single_got h
  cases hv
  exact deliver1_content r out w v hw ha

/-- `isZero` holds of every zero value -/
theorem isZero_of_zero (t : Ty) : isZeroVal (zeroVal t) = true := zeroVal_isZero t

/-- `V2I`, one element (`v2i1`): a zero pointer / interface result becomes the untyped nil -/
theorem V2I_zero_ptr_iface_is_nil (v : RV) (t : Ty) (hk : t.kind = .iface ∨ t.kind = .ptr)
    (hw : v.wellFlagged = true) (hx : v.val.kindOK v.fk = true) (hz : isZeroVal v.val = true) :
    v2i1 K v t = .ok none := by
  have hc : t.kind ∈ K.v2i := K_v2i_mem.2 hk
  simp [v2i1, hw, hc, isZeroRV, hx, hz]

/-- round trip, nil, for one value: `v2i1 (toValue nil)` is nil for pointer and interface results -/
theorem roundtrip_nil (out : Ty) (hk : out.kind = .iface ∨ out.kind = .ptr) :
    toValue K none out = .ok (zeroRV out) ∧ v2i1 K (zeroRV out) out = .ok none := by
  have hn : Nilable out.kind := hk.elim (fun h => .inr (.inl h)) .inl
  refine ⟨toValue_nil_ok hn, V2I_zero_ptr_iface_is_nil _ _ hk (zeroRV_wellFlagged out) ?_ (zeroVal_isZero out)⟩
  show (zeroVal out).kindOK out.kind = true
  rw [(nilable_shape out hn).2.1]
  rcases hk with h | h <;> rw [h] <;> rfl

example : (Ty.ptr tS1).kind = .ptr ∧ tError.kind = .iface := by decide +kernel

/-- round trip, boxed: an implementing value comes back with its own dynamic type and payload -/
theorem roundtrip_boxed (t : Ty) (x : Val) (out : Ty) (hk : out.kind = .iface)
    (himp : implements out t = true) (hctx : isIContextPtr t = false) :
    ∃ v, toValue K (some (t, x)) out = .ok v ∧ v2i1 K v out = .ok (some (t, x)) := by
  refine ⟨_, (boxed_keeps_dynamic_type t x out hk himp hctx).1, ?_⟩
  have hc : out.kind ∈ K.v2i := K_v2i_mem.2 (.inl hk)
  simp [v2i1, boxed_wellFlagged hk, hc, isZeroRV, Val.kindOK, isZeroVal, RV.toBoxed]

/-- round trip, same type: a value of the declared (non-interface) type comes back unchanged — except that a nil
    pointer comes back as the untyped nil (V2I's documented normalisation) -/
theorem roundtrip_same_type (t : Ty) (x : Val) (hk : t.kind ≠ .iface) (hx : x.kindOK t.kind = true)
    (hctx : isIContextPtr t = false) :
    toValue K (some (t, x)) t = .ok ⟨t, t.kind, !t.isDirect, x⟩ ∧
    v2i1 K ⟨t, t.kind, !t.isDirect, x⟩ t = .ok (if t.kind = .ptr ∧ x = .nilp then none else some (t, x)) := by
  have htv : toValue K (some (t, x)) t = .ok ⟨t, t.kind, !t.isDirect, x⟩ := by
    rw [toValue_ordinary x fun h => h.1 rfl, if_neg (Bool.eq_false_iff.1 hctx), if_neg hk, if_neg (not_not_intro rfl)]
  refine ⟨htv, ?_⟩
  -- the value is well formed, so `V2I` asks `isZero` for a pointer and boxes the value under its own type otherwise
  have hv : v2i1 K ⟨t, t.kind, !t.isDirect, x⟩ t =
      if t.kind = .ptr then (if isZeroVal x = true then .ok none else .ok (some (t, x))) else .ok (some (t, x)) := by
    simp only [v2i1, asIs_wellFlagged, isZeroRV, hx, toBoxed_of_kindOK hx hk, List.contains_iff_mem, K_v2i_mem, hk,
      false_or, Bool.not_true, Bool.false_eq_true, Bool.and_self, if_false, if_true]
    cases isZeroVal x <;> rfl
  rw [hv]
  by_cases hp : t.kind = .ptr
  · simp only [hp, true_and, if_true, isZeroVal_ptr (hp ▸ hx)]
    split <;> rfl
  · simp only [hp, false_and, if_false]

example : tS1.kind ≠ .iface ∧ vS1.kindOK tS1.kind = true ∧ isIContextPtr tS1 = false := by decide +kernel

/-- non-variadic: another number of values than declared types is "the number of args does not match" -/
theorem I2V_arity_nonvariadic (objs : List Boxed) (types : List Ty) (h : objs.length ≠ types.length) :
    I2V K objs types false = .error .errArity := by
  simp [I2V, h]

/-- variadic: fewer values than fixed positions is "the number of args does not match" -/
theorem I2V_arity_variadic (objs : List Boxed) (types : List Ty) (h : objs.length < types.length - 1) :
    I2V K objs types true = .error .errArity := by
  simp [I2V, h]

/-- I2V returns one converted value per supplied value -/
theorem I2V_keeps_count (objs : List Boxed) (types : List Ty) (b : Bool) (vs : List RV)
    (h : I2V K objs types b = .ok vs) : vs.length = objs.length :=
  (convAll_ok (I2V_ok h)).1

/-- several results: the j-th stored value is `toValue` of the j-th supplied value at the j-th declared type —
    so every single-result theorem above applies to each position of a multi-result `Return(...)` -/
theorem I2V_nonvariadic_pointwise (objs : List Boxed) (types : List Ty) (vs : List RV)
    (h : I2V K objs types false = .ok vs) :
    objs.length = types.length ∧
    ∀ j, j < objs.length → ∃ t a v, types[j]? = some t ∧ objs[j]? = some a ∧ vs[j]? = some v ∧ toValue K a t = .ok v := by
  by_cases hl : objs.length = types.length
  · refine ⟨hl, fun j hj => ?_⟩
    obtain ⟨a, v, h1, h2, h3⟩ := (convAll_ok (I2V_ok h)).2 j hj
    have hjt : j < types.length := hl ▸ hj
    rw [Nat.zero_add, convAt_nonvariadic types j hjt] at h3
    exact ⟨types[j], a, v, List.getElem?_eq_getElem hjt, h1, h2, h3⟩
  · rw [I2V_arity_nonvariadic objs types hl] at h
    cases h

example : ∃ vs, I2V K [some (tInt64, .int 5), none] [tInt64, tError] false = .ok vs ∧ vs.length = 2 :=
  ⟨[⟨tInt64, .int, true, .int 5⟩, ⟨tError, .iface, true, .ifaceNil⟩], rfl, rfl⟩

/-! ### variadic lists (`When.Eval(args...)` on a variadic function: `types = pre ++ [[]elem]`) -/

/-- the declared type the j-th supplied value of a variadic call is converted at -/
def variadicTypeAt (pre : List Ty) (elem : Ty) (j : Nat) : Ty := if h : j < pre.length then pre[j] else elem

/-- **variadic, success**: the first `n-1` values convert at their own declared types and every remaining value
    at the element type of the last (slice) type; as many results as supplied values; at least `n-1` values -/
theorem I2V_variadic_pointwise (objs : List Boxed) (pre : List Ty) (last elem : Ty) (vs : List RV)
    (hlast : last.elem? = .ok elem) (h : I2V K objs (pre ++ [last]) true = .ok vs) :
    pre.length ≤ objs.length ∧ vs.length = objs.length ∧
    ∀ j, j < objs.length → ∃ a v, objs[j]? = some a ∧ vs[j]? = some v ∧ toValue K a (variadicTypeAt pre elem j) = .ok v := by
  have hn : pre.length ≤ objs.length := by
    apply Nat.le_of_not_lt
    intro hlt
    rw [I2V_arity_variadic objs _ (by simpa using hlt)] at h
    cases h
  rw [I2V_variadic hlast hn] at h
  obtain ⟨hlen, hp⟩ := convAll_ok h
  refine ⟨hn, hlen, fun j hj => ?_⟩
  simpa only [Nat.zero_add, variadicTypeAt] using hp j hj

example : (Ty.slice tInt64).elem? = .ok tInt64 := rfl

/-- **variadic, arity**: fewer than `n-1` values are refused before any conversion -/
theorem I2V_variadic_too_few (objs : List Boxed) (pre : List Ty) (last : Ty) (h : objs.length < pre.length) :
    I2V K objs (pre ++ [last]) true = .error .errArity := by
  apply I2V_arity_variadic
  simpa using h

/-- **variadic, failure = first failing position**: if the conversion fails with `e`, some position `j` fails with
    exactly `e` at its own type (fixed part) / at the element type (tail) and every earlier position converted -/
theorem I2V_variadic_error_is_first_failure (objs : List Boxed) (pre : List Ty) (last elem : Ty) (e : Fail)
    (hlast : last.elem? = .ok elem) (hn : pre.length ≤ objs.length) (h : I2V K objs (pre ++ [last]) true = .error e) :
    ∃ j a, objs[j]? = some a ∧ toValue K a (variadicTypeAt pre elem j) = .error e ∧
      ∀ k, k < j → ∃ c v, objs[k]? = some c ∧ toValue K c (variadicTypeAt pre elem k) = .ok v := by
  rw [I2V_variadic hlast hn] at h
  simpa only [Nat.zero_add, variadicTypeAt] using convAll_error h

/-- conversely, the first failing position of a variadic conversion decides the outcome -/
theorem I2V_variadic_first_failure_is_error (objs : List Boxed) (pre : List Ty) (last elem : Ty) (e : Fail) (j : Nat) (a : Boxed)
    (hlast : last.elem? = .ok elem) (hn : pre.length ≤ objs.length)
    (h1 : objs[j]? = some a) (h2 : toValue K a (variadicTypeAt pre elem j) = .error e)
    (h3 : ∀ k, k < j → ∃ c v, objs[k]? = some c ∧ toValue K c (variadicTypeAt pre elem k) = .ok v) :
    I2V K objs (pre ++ [last]) true = .error e := by
  rw [I2V_variadic hlast hn]
  exact convAll_error_of_first j a h1 ((Nat.zero_add j).symm ▸ h2) fun k hk => (Nat.zero_add k).symm ▸ h3 k hk

/-- an untyped nil in the variadic tail becomes the typed zero value of the element type -/
theorem variadic_tail_nil_is_typed_zero (objs : List Boxed) (pre : List Ty) (last elem : Ty) (vs : List RV) (j : Nat)
    (hlast : last.elem? = .ok elem) (h : I2V K objs (pre ++ [last]) true = .ok vs)
    (hj : pre.length ≤ j) (hnil : objs[j]? = some none) (hk : Nilable elem.kind) :
    vs[j]? = some (zeroRV elem) := by
  obtain ⟨v, h2, h3⟩ := I2V_variadic_tail hlast h hj hnil
  rw [h2, Except.ok.inj (h3.symm.trans (toValue_nil_ok hk))]

/-- an implementing value in the tail of an interface-typed variadic parameter is boxed with its dynamic type -/
theorem variadic_tail_boxed (objs : List Boxed) (pre : List Ty) (last elem : Ty) (vs : List RV) (j : Nat) (t : Ty) (x : Val)
    (hlast : last.elem? = .ok elem) (h : I2V K objs (pre ++ [last]) true = .ok vs)
    (hj : pre.length ≤ j) (hv : objs[j]? = some (some (t, x))) (hk : elem.kind = .iface)
    (himp : implements elem t = true) (hctx : isIContextPtr t = false) :
    vs[j]? = some ⟨elem, .iface, true, .ifaceOf t x⟩ := by
  obtain ⟨v, h2, h3⟩ := I2V_variadic_tail hlast h hj hv
  rw [h2, Except.ok.inj (h3.symm.trans (boxed_keeps_dynamic_type t x elem hk himp hctx).1)]

/-- a value of another size anywhere in the variadic tail makes the whole conversion fail: nothing is reinterpreted -/
theorem variadic_tail_size_mismatch_rejected (objs : List Boxed) (pre : List Ty) (last elem : Ty) (j : Nat) (t : Ty) (x : Val)
    (hlast : last.elem? = .ok elem) (hj : pre.length ≤ j) (hv : objs[j]? = some (some (t, x)))
    (hs : t.size ≠ elem.size) (hk : elem.kind ≠ .iface) :
    ∀ vs, I2V K objs (pre ++ [last]) true ≠ .ok vs := by
  intro vs h
  obtain ⟨v, _, h3⟩ := I2V_variadic_tail hlast h hj hv
  exact toValue_size_mismatch hs hk h3

/-- fewer values than results never configure a stub -/
theorem too_few_results_rejected (values : List Boxed) (outs : List Ty) (h : values.length < outs.length) :
    returnE2E K values outs = .cfgReturnsMismatch := by
  simp [returnE2E, h]

/-- more values than results: configuration-time panic from I2V's arity check -/
theorem too_many_results_rejected (values : List Boxed) (outs : List Ty) (h : outs.length < values.length) :
    returnE2E K values outs = .cfgPanic .errArity := by
  have h1 : ¬ values.length < outs.length := Nat.lt_asymm h
  rw [returnE2E, if_neg h1, I2V_arity_nonvariadic values outs (Nat.ne_of_gt h)]

/-! ## several results: `Return(a, b, …)` on `func() (A, B, …)` -/

/-- a delivered multi-result call, position by position: every supplied value was converted at the type of its
    position, is a well-flagged Value, and passed the result check -/
theorem returnE2E_got_pointwise (values : List Boxed) (outs : List Ty) (rs : List RV)
    (h : returnE2E K values outs = .got rs) :
    values.length = outs.length ∧ rs.length = outs.length ∧
    ∀ j, j < outs.length → ∃ r o w a, values[j]? = some r ∧ outs[j]? = some o ∧ rs[j]? = some a ∧
      toValue K r o = .ok w ∧ w.wellFlagged = true ∧ deliver1 w o = some a := by
  rw [returnE2E] at h
  by_cases hlt : values.length < outs.length
  · rw [if_pos hlt] at h; cases h
  · rw [if_neg hlt] at h
    cases hvs : I2V K values outs false with
    | error e => rw [hvs] at h; cases h
    | ok vs =>
      rw [hvs] at h
      dsimp only at h
      by_cases hwf : vs.any (fun v => !v.wellFlagged) = true
      · rw [if_pos hwf] at h; cases h
      · rw [if_neg hwf] at h
        cases hd : deliver vs outs with
        | none => rw [hd] at h; cases h
        | some rs' =>
          rw [hd] at h
          cases h
          obtain ⟨hlen, hpt⟩ := I2V_nonvariadic_pointwise values outs vs hvs
          obtain ⟨hl1, _, hdp⟩ := deliver_pointwise vs outs rs hd
          refine ⟨hlen, hl1, fun j hj => ?_⟩
          obtain ⟨t, r, v, h1, h2, h3, h4⟩ := hpt j (hlen ▸ hj)
          obtain ⟨v', o, a, g1, g2, g3, g4⟩ := hdp j hj
          cases h3.symm.trans g1
          cases h1.symm.trans g2
          refine ⟨r, t, v, a, h2, h1, g3, h4, ?_, g4⟩
          cases hw : v.wellFlagged
          · exact absurd (List.any_eq_true.2 ⟨v, List.mem_of_getElem? h3, by rw [hw]; rfl⟩) hwf
          · rfl

/-- **multi-result: delivered means declared type and unaltered content at every position** -/
theorem multi_delivered_typed_and_unaltered (values : List Boxed) (outs : List Ty) (rs : List RV)
    (h : returnE2E K values outs = .got rs) :
    values.length = outs.length ∧ rs.length = outs.length ∧
    ∀ j, j < outs.length → ∃ r o a, values[j]? = some r ∧ outs[j]? = some o ∧ rs[j]? = some a ∧ Content r o a := by
  obtain ⟨h1, h2, h3⟩ := returnE2E_got_pointwise values outs rs h
  refine ⟨h1, h2, fun j hj => ?_⟩
  obtain ⟨r, o, w, a, g1, g2, g3, g4, _, g6⟩ := h3 j hj
  exact ⟨r, o, a, g1, g2, g3, deliver1_content r o w a g4 g6⟩

/-- **multi-result, nil position**: `Return(5, nil)` on `func() (int, error)` — whatever else is returned, the nil
    position arrives as the typed zero value (the nil error) -/
theorem multi_nil_is_typed_zero (values : List Boxed) (outs : List Ty) (rs : List RV) (j : Nat) (o : Ty)
    (h : returnE2E K values outs = .got rs) (hv : values[j]? = some none) (ho : outs[j]? = some o)
    (hk : Nilable o.kind) : rs[j]? = some (zeroRV o) := by
  obtain ⟨_, _, h3⟩ := returnE2E_got_pointwise values outs rs h
  obtain ⟨r, o', w, a, g1, g2, g3, g4, _, g6⟩ := h3 j (List.getElem?_eq_some_iff.1 ho).1
  cases hv.symm.trans g1
  cases ho.symm.trans g2
  cases (toValue_nil_ok hk).symm.trans g4
  rw [g3, Option.some.inj (g6.symm.trans (deliver1_zeroRV hk))]

example : ∃ rs, returnE2E K [some (tInt64, .int 5), none] [tInt64, tError] = .got rs :=
  ⟨[⟨tInt64, .int, true, .int 5⟩, ⟨tError, .iface, true, .ifaceNil⟩], by decide +kernel⟩

/-- **multi-result, clause 4**: a value of another size at ANY position keeps the whole call from being delivered -/
theorem multi_size_mismatch_rejected (values : List Boxed) (outs : List Ty) (j : Nat) (t : Ty) (x : Val) (o : Ty)
    (hv : values[j]? = some (some (t, x))) (ho : outs[j]? = some o) (hs : t.size ≠ o.size) (hk : o.kind ≠ .iface) :
    ∀ rs, returnE2E K values outs ≠ .got rs := by
  intro rs h
  obtain ⟨_, _, h3⟩ := returnE2E_got_pointwise values outs rs h
  obtain ⟨r, o', w, a, g1, g2, _, g4, _, _⟩ := h3 j (List.getElem?_eq_some_iff.1 ho).1
  cases hv.symm.trans g1
  cases ho.symm.trans g2
  exact toValue_size_mismatch hs hk g4

/-! ## the batch forms: `Matches(arg.Pair{…, Return: r})` and `Returns(v₁, v₂, …)` -/

/-- a bare value given as `Pair.Return` (the untyped nil included) is a single result, converted exactly as by
    `Return(value)`.  The equation holds for every `b` (the proof does not use the hypothesis); `PairRet.WF` marks where
    `.one b` renders the Go value faithfully: a bare `[]interface{}` is not a bare value but the list form
    (documented flattening, see Findings/C09AnySlice.lean), so `.one` never stands for one. -/
theorem matches_bare_value_is_single_result (b : Boxed) (out : Ty) (_hwf : (PairRet.one b).WF) :
    matchesE2E K (.one b) [out] = returnE2E K [b] [out] :=
  rfl

/-- a `[]interface{}` given as `Pair.Return` is the result list, converted exactly as by `Return(values...)` -/
theorem matches_list_is_result_list (bs : List Boxed) (outs : List Ty) (h : outs.length ≤ bs.length) :
    matchesE2E K (.list bs) outs = returnE2E K bs outs := by
  rw [returnE2E, if_neg (Nat.not_lt.2 h)]
  rfl

/-- `Matches(Pair{Args: a, Return: nil})`: the nil becomes the typed zero value of the declared result, exactly as
    with `Return(nil)` — a nil error that compares equal to nil, a nil pointer, slice, map, channel, func -/
theorem matches_nil_is_typed_zero (out : Ty) (h : Nilable out.kind) :
    matchesE2E K (.one none) [out] = .got [zeroRV out] := by
  rw [matches_bare_value_is_single_result none out trivial, nil_result_at_caller out h]

example : Nilable tError.kind ∧ Nilable (Ty.ptr tS1).kind := by decide +kernel

/-- `Returns(nil, …)`: a bare nil element is one group holding the typed zero value … -/
theorem returns_nil_group_is_typed_zero (out : Ty) (h : Nilable out.kind) (gs : List PairRet) :
    seqConfigure K [out] (.one none :: gs) =
      (match seqConfigure K [out] gs with
       | .error e => .error e
       | .ok r => .ok ([zeroRV out] :: r)) := by
  simp only [seqConfigure, PairRet.results, I2V_single, toValue_nil_ok h]
  cases seqConfigure K [out] gs <;> rfl

/-- the first call after `Returns(nil, …)` (head group, call 0) receives that zero value unaltered; later calls and groups:
    `seq_call_is_group` -/
theorem seq_zero_group_delivered (out : Ty) (h : Nilable out.kind) (rest : List (List RV)) :
    seqCall ([zeroRV out] :: rest) [out] 0 = .got [zeroRV out] := by
  simp [seqCall, zeroRV_wellFlagged, deliver_single, deliver1_zeroRV h]

/-- the last group is sticky: every call from the (k-1)-th on gets the last group's results -/
theorem seq_last_sticky (stored : List (List RV)) (outs : List Ty) (i : Nat) (h : stored.length - 1 ≤ i) :
    seqCall stored outs i = seqCall stored outs (stored.length - 1) := by
  simp only [seqCall, Nat.min_eq_right h, Nat.min_self]

/-- `Matches` differs from `Return` only by the missing count pre-check: they deliver the same things -/
theorem matchesE2E_got_iff (g : PairRet) (outs : List Ty) (rs : List RV) :
    matchesE2E K g outs = .got rs ↔ returnE2E K g.results outs = .got rs := by
  by_cases hl : g.results.length < outs.length
  · -- too few values: `Return` refuses at the count check, `Matches` at `I2V`'s arity check
    rw [too_few_results_rejected _ _ hl, matchesE2E, I2V_arity_nonvariadic _ _ (Nat.ne_of_lt hl)]
    exact ⟨CallRes.noConfusion, CallRes.noConfusion⟩
  · rw [returnE2E, if_neg hl, matchesE2E]

/-- every stored group of `Returns(g₁ … g_k)` is the conversion of the corresponding supplied group -/
theorem seqConfigure_pointwise (outs : List Ty) : ∀ (gs : List PairRet) (stored : List (List RV)),
    seqConfigure K outs gs = .ok stored →
    stored.length = gs.length ∧
    ∀ i, i < gs.length → ∃ g vs, gs[i]? = some g ∧ stored[i]? = some vs ∧ I2V K g.results outs false = .ok vs := by
  intro gs stored h
  rw [seqConfigure_eq_convAll] at h
  exact convAll_ok h

/-- **the i-th call after `Returns(g₁ … g_k)`** (also `When(x).Returns(…)` / `.Return(g₁).AndReturn(g₂)…`): it behaves
    exactly like a stub configured with the single group `g_{min i (k-1)}` — in order, last one sticky -/
theorem seq_call_is_group (outs : List Ty) (gs : List PairRet) (stored : List (List RV)) (i : Nat)
    (hne : gs ≠ []) (h : seqConfigure K outs gs = .ok stored) :
    ∃ g, gs[min i (gs.length - 1)]? = some g ∧ seqCall stored outs i = matchesE2E K g outs := by
  obtain ⟨hl, hp⟩ := seqConfigure_pointwise outs gs stored h
  have hpos : 0 < gs.length := List.length_pos_iff.2 hne
  obtain ⟨g, vs, a1, a2, a3⟩ := hp (min i (gs.length - 1)) (by omega)
  refine ⟨g, a1, ?_⟩
  simp only [seqCall, hl, a2, matchesE2E, a3]

/-- **what the i-th call after `Returns(g₁ … g_k)` delivers has the declared types and the supplied content of its group, position by position**
    (the nil and size-mismatch clauses are not restated for sequences: `seq_call_is_group` and `matchesE2E_got_iff` turn
    the call into `returnE2E` of the group, where `multi_nil_is_typed_zero` / `multi_size_mismatch_rejected` apply) -/
theorem seq_call_delivered_typed_and_unaltered (outs : List Ty) (gs : List PairRet) (stored : List (List RV)) (i : Nat)
    (rs : List RV) (hne : gs ≠ []) (h : seqConfigure K outs gs = .ok stored) (hc : seqCall stored outs i = .got rs) :
    ∃ g, gs[min i (gs.length - 1)]? = some g ∧ g.results.length = outs.length ∧ rs.length = outs.length ∧
      ∀ j, j < outs.length → ∃ r o a, g.results[j]? = some r ∧ outs[j]? = some o ∧ rs[j]? = some a ∧ Content r o a := by
  obtain ⟨g, hg, hcall⟩ := seq_call_is_group outs gs stored i hne h
  rw [hcall, matchesE2E_got_iff] at hc
  obtain ⟨h1, h2, h3⟩ := multi_delivered_typed_and_unaltered g.results outs rs hc
  exact ⟨g, hg, h1, h2, h3⟩

/-- **`Returns(v)` with one bare value is `Return(v)`**: whatever `v` is — a scalar, a struct, or a slice / array / map that
    is itself the stubbed value (also when its elements would fit the declared type) — every call gets exactly what
    `Return(v)` delivers, and a rejected `v` is rejected with the same class.  (`PairRet.WF`: `v` is not a `[]interface{}`;
    the hypothesis delimits the faithful rendering, the equation does not need it.) -/
theorem returns_single_value_is_return (b : Boxed) (out : Ty) (i : Nat) (hwf : (PairRet.one b).WF) :
    (match seqConfigure K [out] [.one b] with
     | .ok stored => seqCall stored [out] i
     | .error e => .cfgPanic e) = returnE2E K [b] [out] := by
  rw [← matches_bare_value_is_single_result b out hwf]
  simp only [seqConfigure, matchesE2E]
  cases I2V K (PairRet.one b).results [out] false with
  | error e => rfl
  | ok vs => simp [seqCall]

/-- so a typed slice given as the single element of `Returns` to an `interface{}`-like result arrives boxed, whole -/
theorem returns_single_slice_boxed (e : Ty) (x : Val) (out : Ty) (i : Nat) (hk : out.kind = .iface)
    (himp : implements out (.slice e) = true) (hne : isAnySlice (.slice e) = false) :
    (match seqConfigure K [out] [.one (some (.slice e, x))] with
     | .ok stored => seqCall stored [out] i
     | .error e => .cfgPanic e) = .got [⟨out, .iface, true, .ifaceOf (.slice e) x⟩] := by
  rw [returns_single_value_is_return _ out i (by simpa [PairRet.WF] using hne)]
  exact (boxed_keeps_dynamic_type (.slice e) x out hk himp (by simp [isIContextPtr])).2.1

example : implements (.iface []) (.slice tInt64) = true ∧ isAnySlice (.slice tInt64) = false := by decide +kernel

example : seqConfigure K [tError] [.one none, .one none] = .ok [[zeroRV tError], [zeroRV tError]] := by
  have h := (nil_is_typed_zero tError (by decide)).1
  simp [seqConfigure, PairRet.results, I2V_single, h]

/-! ### values given to `When(…)` / `arg.In(…)` -/

/- FULL statement of the clause (not proved here): "`When(x₁…x_k)` answers exactly the calls whose i-th argument equals
   xᵢ as a value of the i-th declared type".  It needs goom's comparison `arg/equals.go equal`, which is modelled and
   proved in C18 (`Model/Equal.lean`, `equals_spec_partial`), not in this model.  Proved here is the conversion half: what is
   stored for comparison is `toValue` of each supplied value at the declared type of ITS position, nothing is stored
   when any position is rejected, so every clause theorem above (typed zero, boxed with dynamic type, stand-in retyped
   with payload untouched, other size rejected) holds for the comparison operands.  That an accepted value then answers
   the call made with that very value (and not its near miss) is observed by the when/when2/whenv/in lanes. -/

/-- **conversion half, positionwise** -/
theorem when_values_converted_as_declared_partial : ∀ (ps : List (Boxed × Ty)) (vs : List RV),
    whenConfigure K ps = .ok vs →
    vs.length = ps.length ∧
    ∀ j, j < ps.length → ∃ b t v, ps[j]? = some (b, t) ∧ vs[j]? = some v ∧ toValue K b t = .ok v := by
  intro ps vs h
  rw [whenConfigure_eq_convAll] at h
  obtain ⟨hl, hp⟩ := convAll_ok h
  refine ⟨hl, fun j hj => ?_⟩
  obtain ⟨⟨b, t⟩, v, h1, h2, h3⟩ := hp j hj
  exact ⟨b, t, v, h1, h2, h3⟩

/-- a value of another size at any position of `When(…)` / `In(…)` rejects the whole condition: nothing is compared
    against a reinterpreted value -/
theorem when_size_mismatch_rejected (ps : List (Boxed × Ty)) (j : Nat) (t : Ty) (x : Val) (p : Ty)
    (hj : ps[j]? = some (some (t, x), p)) (hs : t.size ≠ p.size) (hk : p.kind ≠ .iface) :
    ∀ vs, whenConfigure K ps ≠ .ok vs := by
  intro vs h
  obtain ⟨b, t', v, a1, _, a3⟩ :=
    (when_values_converted_as_declared_partial ps vs h).2 j (List.getElem?_eq_some_iff.1 hj).1
  cases hj.symm.trans a1
  exact toValue_size_mismatch hs hk a3

/- Re-use of one `arg.In(v₁…v_k)` object on functions with different parameter types: `whenConfigure` is a function of
   (values, declared types) only, so in the model the outcome at the second function cannot depend on the first use;
   that the implementation has no such memory either is what the `c09.in` lane observes (seeded change c09-r4-2). -/

example : whenConfigure K [(some (tS1b, vS1), tS1)] = .ok [⟨tS1, .strct, true, vS1⟩] := by
  have h := (layout_standin_accepted tS1b vS1 tS1 (by decide) (by decide) (by decide) (by decide)).1
  simp only [whenConfigure, h]
  rfl

/-! ## the boundary of the model: exactly when the answer is `unmodelled` -/

/-- the supplied value kept under its own type -/
def asIsRV (t : Ty) (x : Val) : RV := ⟨t, t.kind, !t.isDirect, x⟩
/-- the supplied value relabelled with the declared type by `cast` (flag word of the original kept) -/
def retypedRV (t : Ty) (x : Val) (out : Ty) : RV := ⟨out, t.kind, !t.isDirect, x⟩
/-- the supplied value boxed into the declared interface type -/
def boxedRV (t : Ty) (x : Val) (out : Ty) : RV := ⟨out, .iface, true, .ifaceOf t x⟩

/-- **total classification of `toValue` on a non-nil value** (today's kind lists): every outcome is one of
    reject (`errSize`), the deliberate IContext refusal, retyped, boxed, not-assignable panic, or kept as is —
    with exactly this content. -/
theorem toValue_classified (t : Ty) (x : Val) (out : Ty) :
    toValue K (some (t, x)) out =
      if t ≠ out ∧ (out.kind = .strct ∨ out.kind = .ptr) then
        (if t.size ≠ out.size then .error .errSize
         else if isIContextPtr out = true then .error .panicIContext
         else .ok (retypedRV t x out))
      else if isIContextPtr t = true then .error .panicIContext
      else if out.kind = .iface then
        (if implements out t = true then .ok (boxedRV t x out) else .error .panicAssign)
      else if t.size ≠ out.size then .error .errSize
      else .ok (asIsRV t x) := by
  by_cases hc : t ≠ out ∧ (out.kind = .strct ∨ out.kind = .ptr)
  · rw [if_pos hc]
    exact toValue_standin x hc.1 hc.2
  · rw [if_neg hc]
    exact toValue_ordinary x hc

/-- `toValue` on the untyped nil: typed zero value for the listed kinds, a panic (`Value.Type on zero Value`) otherwise -/
theorem toValue_nil_classified (out : Ty) :
    toValue K none out = if out.kind ∈ K.nil then .ok (zeroRV out) else .error .panicZeroValue := by
  simp [toValue]

/-- **the `unmodelled` predicate** on (supplied type, declared type): the value is accepted and retyped although its
    kind or its representation class (pointer-shaped vs indirect) differs from the declared type's -/
def CrossRep (t out : Ty) : Bool :=
  decide (t ≠ out) && (out.kind == .strct || out.kind == .ptr) && decide (t.size = out.size) && !isIContextPtr out &&
    (t.kind != out.kind || t.isDirect != out.isDirect)

theorem retypedRV_wellFlagged (t : Ty) (x : Val) (out : Ty) :
    (retypedRV t x out).wellFlagged = !(t.kind != out.kind || t.isDirect != out.isDirect) := by
  simp only [retypedRV, RV.wellFlagged, bne]
  cases t.kind == out.kind <;> cases t.isDirect <;> cases out.isDirect <;> rfl

theorem e2e_unmodelled_of_ok (r : Boxed) (out : Ty) (v : RV) (h : toValue K r out = .ok v) :
    returnE2E K [r] [out] = .callUnmodelled ↔ v.wellFlagged = false := by
  rw [returnE2E_single, h]
  cases hw : v.wellFlagged
  · simp [hw]
  · cases hd : deliver1 v out <;> simp [hw, hd]

theorem e2e_not_unmodelled_of_error (r : Boxed) (out : Ty) (e : Fail) (h : toValue K r out = .error e) :
    returnE2E K [r] [out] ≠ .callUnmodelled := by
  rw [returnE2E_of_error h]
  exact CallRes.noConfusion

/-- **`Return(v)` + call answers `unmodelled` exactly on `CrossRep`** -/
theorem unmodelled_iff (t : Ty) (x : Val) (out : Ty) :
    returnE2E K [some (t, x)] [out] = .callUnmodelled ↔ CrossRep t out = true := by
  have hcr : CrossRep t out = true ↔ (t ≠ out ∧ (out.kind = .strct ∨ out.kind = .ptr) ∧ t.size = out.size ∧
      isIContextPtr out = false) ∧ (retypedRV t x out).wellFlagged = false := by
    simp [CrossRep, retypedRV_wellFlagged, and_assoc, Decidable.imp_iff_not_or]
  rw [hcr]
  constructor
  · intro h
    cases htv : toValue K (some (t, x)) out with
    | error e => exact absurd h (e2e_not_unmodelled_of_error _ _ _ htv)
    | ok v =>
      have hw := (e2e_unmodelled_of_ok _ _ _ htv).1 h
      -- of the three ways to be accepted only the retyped value can be mis-flagged
      rcases toValue_ok_cases htv with ⟨rfl, h1, h2, h3, h4⟩ | ⟨rfl, hk⟩ | ⟨rfl, _, _⟩
      · exact ⟨⟨h1, h2, h3, h4⟩, hw⟩
      · rw [boxed_wellFlagged hk] at hw; cases hw
      · rw [asIs_wellFlagged] at hw; cases hw
  · intro ⟨⟨h1, h2, h3, h4⟩, hw⟩
    have htv : toValue K (some (t, x)) out = .ok (retypedRV t x out) := by
      rw [toValue_standin x h1 h2, if_neg (not_not_intro h3), if_neg (Bool.eq_false_iff.1 h4)]; rfl
    exact (e2e_unmodelled_of_ok _ _ _ htv).2 hw

/-- an untyped nil is never `unmodelled` -/
theorem nil_never_unmodelled (out : Ty) : returnE2E K [none] [out] ≠ .callUnmodelled := by
  cases h : toValue K none out with
  | error e => exact e2e_not_unmodelled_of_error _ _ _ h
  | ok v =>
    rw [Ne, e2e_unmodelled_of_ok _ _ _ h, (toValue_ok_payload none out v h : v = zeroRV out), zeroRV_wellFlagged]
    exact Bool.noConfusion

/-- **outside `CrossRep` every outcome is classified with its content**: a configuration-time panic (the reject
    class), a call-time `MakeFunc` panic (same size, other non-assignable type — nothing delivered), or a delivered
    value of the declared type whose content is the supplied payload (as is / retyped) or the payload boxed with
    its dynamic type; results of size 0 carry no content. -/
theorem outside_unmodelled_classified (t : Ty) (x : Val) (out : Ty) (h : CrossRep t out = false) :
    (∃ e, returnE2E K [some (t, x)] [out] = .cfgPanic e) ∨
    returnE2E K [some (t, x)] [out] = .callPanic ∨
    (∃ v, returnE2E K [some (t, x)] [out] = .got [v] ∧ v.ty = out ∧
        (out.size = 0 ∨ v.val = x ∨ v.val = .ifaceOf t x)) := by
  have hu : returnE2E K [some (t, x)] [out] ≠ .callUnmodelled := by
    intro hh; rw [(unmodelled_iff t x out).1 hh] at h; cases h
  cases htv : toValue K (some (t, x)) out with
  | error e => exact .inl ⟨e, returnE2E_of_error htv⟩
  | ok w =>
    have hw : w.wellFlagged = true := eq_true_of_ne_false fun hf => hu ((e2e_unmodelled_of_ok _ _ _ htv).2 hf)
    cases hd : deliver1 w out with
    | none =>
      refine .inr (.inl ?_)
      simp only [returnE2E_single, htv, hw, hd, Bool.true_eq_false, if_false]
    | some v =>
      have hr : returnE2E K [some (t, x)] [out] = .got [v] := by
        simp only [returnE2E_single, htv, hw, hd, Bool.true_eq_false, if_false]
      have hc := deliver1_content (some (t, x)) out w v htv hd
      exact .inr (.inr ⟨v, hr, hc.1, hc.2⟩)

example : CrossRep (.prim .uintptr) (.ptr tS1) = true ∧ CrossRep tS1b tS1 = false ∧ CrossRep (.ptr tS1b) (.ptr tS1) = false ∧
    CrossRep tS2 tS1 = false := by decide +kernel

/-- for an accepted value, `CrossRep` is exactly "the stored Value's flag word disagrees with its type word" -/
theorem crossRep_iff_misflagged (t : Ty) (x : Val) (out : Ty) (v : RV) (h : toValue K (some (t, x)) out = .ok v) :
    CrossRep t out = true ↔ v.wellFlagged = false := by
  rw [← unmodelled_iff t x out, e2e_unmodelled_of_ok _ _ _ h]

/-- the payload of an accepted value still has the shape its flag kind announces -/
theorem toValue_keeps_kindOK (t : Ty) (x : Val) (out : Ty) (v : RV) (hx : x.kindOK t.kind = true)
    (h : toValue K (some (t, x)) out = .ok v) : v.val.kindOK v.fk = true := by
  rcases toValue_ok_cases h with ⟨rfl, _⟩ | ⟨rfl, _⟩ | ⟨rfl, _⟩
  · exact hx
  · rfl
  · exact hx

/-- **`When.Eval` (V2I) answers `unmodelled` exactly on `CrossRep`** (for a payload of the supplied type's shape) -/
theorem eval_unmodelled_iff (t : Ty) (x : Val) (out : Ty) (v : RV) (hx : x.kindOK t.kind = true)
    (h : toValue K (some (t, x)) out = .ok v) :
    v2i1 K v out = .error .unmodelled ↔ CrossRep t out = true := by
  rw [crossRep_iff_misflagged t x out v h]
  have hk := toValue_keeps_kindOK t x out v hx h
  cases hw : v.wellFlagged
  · simp [v2i1, hw]
  · simp only [v2i1, hw, Bool.not_true, Bool.false_eq_true, if_false, isZeroRV, hk, Bool.and_self, if_true, Bool.true_eq_false, iff_false]
    split
    · cases isZeroVal v.val <;> simp
    · simp

end C09
