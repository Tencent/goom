import GoomVerif.Lemmas.C17L
/-! C17 — the arm64 decoder on branch and address instructions, and what goom's extent / wrapper scans make of it.

    Everything below is about `A64Dec.decode env` over the REGENERATED table `Gen.A64.table`, for EVERY oracle `env`
    standing for the ~290 argument decoders and the `canDecode` predicates (93, attached to 107 rows) the model does not interpret.
    The class conditions and displacement formulas (`C17L.specImm26`, …) are written from the Arm ARM, not from the code.

    PARTIAL with respect to the property: totality of the decoder and of `Inst.String()` on all 2^32 words and agreement
    with the reference decoder outside the classes below are NOT theorems; the check executes them (see checks/C17.py). -/
namespace C17
open Gen.A64 A64Dec C17L

/-- the result of decoding, as a consumer sees it: opcode name and arguments -/
def view (r : Option Res) : Option (String × List Arg) := r.map (fun r => (opName r.op, r.args))

private theorem view_eq_some {o : Option Res} {n : String} {as : List Arg} (h : view o = some (n, as)) :
    ∃ r, o = some r ∧ opName r.op = n ∧ r.args = as :=
  (Option.map_eq_some_iff.mp h).imp fun _ hr => ⟨hr.1, Prod.mk.inj hr.2⟩

/-! ### clause "agrees … on decodability, opcode and the PC-relative displacement of branch and address instructions":
    for ALL words of each class, decodability, opcode and displacement are what the Arm ARM says -/

/-- B (C6.2.26): every word `000101 imm26` decodes to `B` with displacement `SignExtend(imm26:'00')`: the table has no
    earlier row that could take such a word, whatever the uninterpreted decoders do. -/
theorem decode_B (env : Env) (x : BitVec 32) (hx : x &&& 0xfc000000#32 = 0x14000000#32) :
    view (decode env x) = some ("B", [.pcrel (specImm26 x)]) := by
  rw [← slabel26_spec]
  exact decode_class env "B" [arg_slabel_imm26_2, 0, 0, 0, 0] (by decide +kernel) hx

example : (0x17ffffff#32) &&& 0xfc000000#32 = 0x14000000#32 ∧ specImm26 0x17ffffff#32 = -4#64 := by decide

/-- BL (C6.2.33): `100101 imm26` -/
theorem decode_BL (env : Env) (x : BitVec 32) (hx : x &&& 0xfc000000#32 = 0x94000000#32) :
    view (decode env x) = some ("BL", [.pcrel (specImm26 x)]) := by
  rw [← slabel26_spec]
  exact decode_class env "BL" [arg_slabel_imm26_2, 0, 0, 0, 0] (by decide +kernel) hx

example : (0x94000010#32) &&& 0xfc000000#32 = 0x94000000#32 ∧ specImm26 0x94000010#32 = 64#64 := by decide

/-- B.cond (C6.2.25): `01010100 imm19 0 cond` -/
theorem decode_Bcond (env : Env) (x : BitVec 32) (hx : x &&& 0xff000010#32 = 0x54000000#32) :
    view (decode env x) = some ("B", [.cond (x &&& 0xf#32).toNat, .pcrel (specImm19 x)]) := by
  rw [← slabel19_spec]
  exact decode_class env "B" [arg_conditional, arg_slabel_imm19_2, 0, 0, 0] (by decide +kernel) hx

example : (0x54ffffe1#32) &&& 0xff000010#32 = 0x54000000#32 ∧ specImm19 0x54ffffe1#32 = -4#64 := by decide

/-- CBZ (C6.2.47): `sf 0110100 imm19 Rt`, both register sizes -/
theorem decode_CBZ (env : Env) (x : BitVec 32) (hx : x &&& 0x7f000000#32 = 0x34000000#32) :
    view (decode env x) = some ("CBZ", [.reg (bit31 x) (r5 x 0), .pcrel (specImm19 x)]) := by
  rw [← slabel19_spec]
  rcases split_sf x _ _ hx with ⟨h, hb⟩ | ⟨h, hb⟩
  · rw [hb]
    exact decode_class env "CBZ" [arg_Wt, arg_slabel_imm19_2, 0, 0, 0] (by decide +kernel) h
  · rw [hb]
    exact decode_class env "CBZ" [arg_Xt, arg_slabel_imm19_2, 0, 0, 0] (by decide +kernel) h

example : (0xb4000043#32) &&& 0x7f000000#32 = 0x34000000#32 ∧ bit31 0xb4000043#32 = true ∧ r5 0xb4000043#32 0 = 3
    ∧ specImm19 0xb4000043#32 = 8#64 := by decide

/-- CBNZ (C6.2.46): `sf 0110101 imm19 Rt` -/
theorem decode_CBNZ (env : Env) (x : BitVec 32) (hx : x &&& 0x7f000000#32 = 0x35000000#32) :
    view (decode env x) = some ("CBNZ", [.reg (bit31 x) (r5 x 0), .pcrel (specImm19 x)]) := by
  rw [← slabel19_spec]
  rcases split_sf x _ _ hx with ⟨h, hb⟩ | ⟨h, hb⟩
  · rw [hb]
    exact decode_class env "CBNZ" [arg_Wt, arg_slabel_imm19_2, 0, 0, 0] (by decide +kernel) h
  · rw [hb]
    exact decode_class env "CBNZ" [arg_Xt, arg_slabel_imm19_2, 0, 0, 0] (by decide +kernel) h

example : (0x35ffffe0#32) &&& 0x7f000000#32 = 0x35000000#32 ∧ specImm19 0x35ffffe0#32 = -4#64 := by decide

/-- the tested bit number `b5:b40` -/
def bitNo (x : BitVec 32) : Nat := ((((x >>> 31) &&& 1#32) <<< 5) ||| ((x >>> 19) &&& 0x1f#32)).toNat

/-- TBZ (C6.2.331): `b5 0110110 b40 imm14 Rt` -/
theorem decode_TBZ (env : Env) (x : BitVec 32) (hx : x &&& 0x7f000000#32 = 0x36000000#32) :
    view (decode env x) = some ("TBZ", [.reg (bit31 x) (r5 x 0), .imm (bitNo x), .pcrel (specImm14 x)]) := by
  rw [← slabel14_spec]
  exact decode_class env "TBZ" [arg_Rt_31_1__W_0__X_1, arg_immediate_0_63_b5_b40, arg_slabel_imm14_2, 0, 0] (by decide +kernel) hx

example : (0x36080041#32) &&& 0x7f000000#32 = 0x36000000#32 ∧ bitNo 0x36080041#32 = 1 ∧ specImm14 0x36080041#32 = 8#64 := by decide

/-- TBNZ (C6.2.330): `b5 0110111 b40 imm14 Rt` -/
theorem decode_TBNZ (env : Env) (x : BitVec 32) (hx : x &&& 0x7f000000#32 = 0x37000000#32) :
    view (decode env x) = some ("TBNZ", [.reg (bit31 x) (r5 x 0), .imm (bitNo x), .pcrel (specImm14 x)]) := by
  rw [← slabel14_spec]
  exact decode_class env "TBNZ" [arg_Rt_31_1__W_0__X_1, arg_immediate_0_63_b5_b40, arg_slabel_imm14_2, 0, 0] (by decide +kernel) hx

example : (0xb7ffffe5#32) &&& 0x7f000000#32 = 0x37000000#32 ∧ bitNo 0xb7ffffe5#32 = 63 ∧ specImm14 0xb7ffffe5#32 = -4#64 := by decide

/-- ADR (C6.2.10): `0 immlo 10000 immhi Rd`, displacement `SignExtend(immhi:immlo)` -/
theorem decode_ADR (env : Env) (x : BitVec 32) (hx : x &&& 0x9f000000#32 = 0x10000000#32) :
    view (decode env x) = some ("ADR", [.reg true (r5 x 0), .pcrel (specAdr x)]) := by
  rw [← slabelAdr_spec]
  exact decode_class env "ADR" [arg_Xd, arg_slabel_immhi_immlo_0, 0, 0, 0] (by decide +kernel) hx

example : (0x70ffffe1#32) &&& 0x9f000000#32 = 0x10000000#32 ∧ specAdr 0x70ffffe1#32 = -1#64 := by decide

/-- ADRP (C6.2.11): `1 immlo 10000 immhi Rd`, displacement `SignExtend(immhi:immlo:Zeros(12))` -/
theorem decode_ADRP (env : Env) (x : BitVec 32) (hx : x &&& 0x9f000000#32 = 0x90000000#32) :
    view (decode env x) = some ("ADRP", [.reg true (r5 x 0), .pcrel (specAdrp x)]) := by
  rw [← slabelAdrp_spec]
  exact decode_class env "ADRP" [arg_Xd, arg_slabel_immhi_immlo_12, 0, 0, 0] (by decide +kernel) hx

example : (0xf0ffffe1#32) &&& 0x9f000000#32 = 0x90000000#32 ∧ specAdrp 0xf0ffffe1#32 = -4096#64 := by decide

/-- LDR (literal) 32-bit (C6.2.167): `00 011000 imm19 Rt` -/
theorem decode_LDRw (env : Env) (x : BitVec 32) (hx : x &&& 0xff000000#32 = 0x18000000#32) :
    view (decode env x) = some ("LDR", [.reg false (r5 x 0), .pcrel (specImm19 x)]) := by
  rw [← slabel19_spec]
  exact decode_class env "LDR" [arg_Wt, arg_slabel_imm19_2, 0, 0, 0] (by decide +kernel) hx

/-- LDR (literal) 64-bit: `01 011000 imm19 Rt` -/
theorem decode_LDRx (env : Env) (x : BitVec 32) (hx : x &&& 0xff000000#32 = 0x58000000#32) :
    view (decode env x) = some ("LDR", [.reg true (r5 x 0), .pcrel (specImm19 x)]) := by
  rw [← slabel19_spec]
  exact decode_class env "LDR" [arg_Xt, arg_slabel_imm19_2, 0, 0, 0] (by decide +kernel) hx

/-- LDRSW (literal) (C6.2.181): `10 011000 imm19 Rt` -/
theorem decode_LDRSW (env : Env) (x : BitVec 32) (hx : x &&& 0xff000000#32 = 0x98000000#32) :
    view (decode env x) = some ("LDRSW", [.reg true (r5 x 0), .pcrel (specImm19 x)]) := by
  rw [← slabel19_spec]
  exact decode_class env "LDRSW" [arg_Xt, arg_slabel_imm19_2, 0, 0, 0] (by decide +kernel) hx

example : (0x58000041#32) &&& 0xff000000#32 = 0x58000000#32 ∧ specImm19 0x58000041#32 = 8#64 := by decide

/-- LDR (literal, SIMD&FP) S/D/Q (C7.2.192): `opc 011 1 00 imm19 Rt`; the FP register operand is known non-nil, its value is not modelled -/
theorem decode_LDRlitS (env : Env) (x : BitVec 32) (hx : x &&& 0xff000000#32 = 0x1c000000#32) :
    view (decode env x) = some ("LDR", [.other, .pcrel (specImm19 x)]) := by
  rw [← slabel19_spec]
  exact decode_class env "LDR" [arg_St, arg_slabel_imm19_2, 0, 0, 0] (by decide +kernel) hx

theorem decode_LDRlitD (env : Env) (x : BitVec 32) (hx : x &&& 0xff000000#32 = 0x5c000000#32) :
    view (decode env x) = some ("LDR", [.other, .pcrel (specImm19 x)]) := by
  rw [← slabel19_spec]
  exact decode_class env "LDR" [arg_Dt, arg_slabel_imm19_2, 0, 0, 0] (by decide +kernel) hx

theorem decode_LDRlitQ (env : Env) (x : BitVec 32) (hx : x &&& 0xff000000#32 = 0x9c000000#32) :
    view (decode env x) = some ("LDR", [.other, .pcrel (specImm19 x)]) := by
  rw [← slabel19_spec]
  exact decode_class env "LDR" [arg_Qt, arg_slabel_imm19_2, 0, 0, 0] (by decide +kernel) hx

/-- PRFM (literal) (C6.2.248): `11 011 0 00 imm19 Rt` -/
theorem decode_PRFMlit (env : Env) (x : BitVec 32) (hx : x &&& 0xff000000#32 = 0xd8000000#32) :
    view (decode env x) = some ("PRFM", [.other, .pcrel (specImm19 x)]) := by
  rw [← slabel19_spec]
  exact decode_class env "PRFM" [arg_prfop_Rt, arg_slabel_imm19_2, 0, 0, 0] (by decide +kernel) hx

example : (0x5c000041#32) &&& 0xff000000#32 = 0x5c000000#32 ∧ (0xd8ffffe0#32) &&& 0xff000000#32 = 0xd8000000#32
    ∧ specImm19 0xd8ffffe0#32 = -4#64 := by decide

/-! ### the NEGATIVE half of "agrees on decodability", as far as it is provable without the reference -/

/-- top-level encoding groups `op0 = 00xx` (x<28:27> = 00: reserved, SME, SVE, unallocated in the Arm ARM's A64 table C4.1; a quarter of
    the 2^32 words, incl. the zero word): NO table row intersects the class, so goom's decoder rejects every such word, whatever the
    uninterpreted decoders do.  (That the reference rejects them too is executed by the sweep, not proved.) -/
theorem decode_op0_00xx_undecodable (env : Env) (x : BitVec 32) (hx : x &&& 0x18000000#32 = 0#32) : decode env x = none :=
  decode_noHit env (by decide +kernel) hx

example : (0x00000000#32) &&& 0x18000000#32 = 0#32 ∧ (0xe7ffdeff#32) &&& 0x18000000#32 = 0#32 := by decide

/-- decode.go:42 fewer than four bytes → errShort, for every oracle -/
theorem decode_src_short (env : Env) (src : List (BitVec 8)) (h : src.length < 4) : decodeSrc env src = .short := by
  match src, h with
  | [], _ => rfl
  | [_], _ => rfl
  | [_, _], _ => rfl
  | [_, _, _], _ => rfl
  | _ :: _ :: _ :: _ :: _, h => simp at h; omega

/-- decode.go:46 only the first four bytes are read: the 12 bytes goom's callers pass after the word never matter -/
theorem decode_src_prefix (env : Env) (a b c d : BitVec 8) (t1 t2 : List (BitVec 8)) :
    decodeSrc env (a :: b :: c :: d :: t1) = decodeSrc env (a :: b :: c :: d :: t2) := rfl

example : ∀ env, decodeSrc env [0x1f#8, 0x20#8, 0x03#8] = .short := fun env => decode_src_short env _ (by decide)

/-! ### the encodings goom itself EMITS on arm64 (internal/patch/monkey_arm64.go, internal/iface/jmp_arm64.go,
    internal/bytecode/memory/icache_arm64.go): MOVZ/MOVK (64-bit), LDR (unsigned offset), BR/BLR/RET, NOP -/

/-- MOVZ 64-bit (C6.2.191): every word `1 10 100101 hw imm16 Rd` decodes — and, exactly as the Arm ARM prescribes for the
    preferred disassembly, to the alias `MOV Xd, #(imm16 << 16*hw)` unless `imm16 = 0 ∧ hw ≠ 0`, in which case to
    `MOVZ Xd, #0, LSL #16*hw`.  The alias row's `canDecode` (condition.go:111) is interpreted by the model. -/
theorem decode_MOVZ64 (env : Env) (x : BitVec 32) (hx : x &&& 0xff800000#32 = 0xd2800000#32) :
    view (decode env x) =
      if (imm16 x == 0#32 && hw x != 0#32) then
        some ("MOVZ", [.reg true (r5 x 0), .immShift ((imm16 x).setWidth 16).toNat ((hw x * 16#32).setWidth 8).toNat])
      else some ("MOV", [.reg true (r5 x 0), .imm64 (((imm16 x).setWidth 64) <<< (hw x * 16#32).toNat)]) := by
  have h := decode_class2 env cond_mov_movz_64_movewide_cond rfl
    "MOV" [arg_Xd, arg_immediate_shift_64_implicit_imm16_hw, 0, 0, 0]
    "MOVZ" [arg_Xd, arg_immediate_OptLSL_amount_16_0_48, 0, 0, 0] (by decide +kernel) hx
  -- the alias is taken when its predicate `!(imm16 = 0 ∧ hw ≠ 0)` holds
  refine h.trans ?_
  cases imm16 x == 0#32 && hw x != 0#32 <;> rfl

example : (0xd2a0001a#32) &&& 0xff800000#32 = 0xd2800000#32 ∧ (imm16 0xd2a0001a#32 == 0#32 && hw 0xd2a0001a#32 != 0#32) = true
    ∧ (0xd282469a#32) &&& 0xff800000#32 = 0xd2800000#32 ∧ (imm16 0xd282469a#32 == 0#32 && hw 0xd282469a#32 != 0#32) = false := by decide

/-- MOVK 64-bit (C6.2.190): `1 11 100101 hw imm16 Rd`, every hw -/
theorem decode_MOVK64 (env : Env) (x : BitVec 32) (hx : x &&& 0xff800000#32 = 0xf2800000#32) :
    view (decode env x) =
      some ("MOVK", [.reg true (r5 x 0), .immShift ((imm16 x).setWidth 16).toNat ((hw x * 16#32).setWidth 8).toNat]) := by
  exact decode_class env "MOVK" [arg_Xd, arg_immediate_OptLSL_amount_16_0_48, 0, 0, 0] (by decide +kernel) hx

example : (0xf2e2469a#32) &&& 0xff800000#32 = 0xf2800000#32 ∧ r5 0xf2e2469a#32 0 = 26
    ∧ ((imm16 0xf2e2469a#32).setWidth 16).toNat = 0x1234 ∧ ((hw 0xf2e2469a#32 * 16#32).setWidth 8).toNat = 48 := by decide

/-- LDR Xt, [Xn|SP, #imm12*8] (unsigned offset, C6.2.166): `11 111 0 01 01 imm12 Rn Rt` -/
theorem decode_LDRuoff64 (env : Env) (x : BitVec 32) (hx : x &&& 0xffc00000#32 = 0xf9400000#32) :
    view (decode env x) =
      some ("LDR", [.reg true (r5 x 0), .mem (r5 x 5) (((((x >>> 10) &&& 0xfff#32) <<< 3).setWidth 32).toInt)]) := by
  exact decode_class env "LDR" [arg_Xt, arg_Xns_mem_optional_imm12_8_unsigned, 0, 0, 0] (by decide +kernel) hx

example : (0xf940074a#32) &&& 0xffc00000#32 = 0xf9400000#32 ∧ r5 0xf940074a#32 0 = 10 ∧ r5 0xf940074a#32 5 = 26
    ∧ ((((0xf940074a#32 >>> 10) &&& 0xfff#32) <<< 3).setWidth 32).toInt = 8 := by decide

/-- BR Xn (C6.2.37) -/
theorem decode_BR (env : Env) (x : BitVec 32) (hx : x &&& 0xfffffc1f#32 = 0xd61f0000#32) :
    view (decode env x) = some ("BR", [.reg true (r5 x 5)]) := by
  exact decode_class env "BR" [arg_Xn, 0, 0, 0, 0] (by decide +kernel) hx

/-- BLR Xn (C6.2.35) -/
theorem decode_BLR (env : Env) (x : BitVec 32) (hx : x &&& 0xfffffc1f#32 = 0xd63f0000#32) :
    view (decode env x) = some ("BLR", [.reg true (r5 x 5)]) := by
  exact decode_class env "BLR" [arg_Xn, 0, 0, 0, 0] (by decide +kernel) hx

/-- RET {Xn} (C6.2.254) -/
theorem decode_RET (env : Env) (x : BitVec 32) (hx : x &&& 0xfffffc1f#32 = 0xd65f0000#32) :
    view (decode env x) = some ("RET", [.reg true (r5 x 5)]) := by
  exact decode_class env "RET" [arg_Xn, 0, 0, 0, 0] (by decide +kernel) hx

example : (0xd61f0140#32) &&& 0xfffffc1f#32 = 0xd61f0000#32 ∧ r5 0xd61f0140#32 5 = 10
    ∧ (0xd65f03c0#32) &&& 0xfffffc1f#32 = 0xd65f0000#32 ∧ r5 0xd65f03c0#32 5 = 30 := by decide

/-- NOP, goom's arm64 "already patched" sentinel `nopOpcode` (monkey_arm64.go:15): decodes to NOP without arguments -/
theorem decode_NOP (env : Env) : view (decode env 0xd503201f#32) = some ("NOP", []) :=
  decode_class env (m := 0xffffffff#32) (v := 0xd503201f#32) "NOP" [0, 0, 0, 0, 0] (by decide +kernel) (by decide)

/-- little-endian instruction words of a byte sequence (4 bytes each) -/
def wordsOf : List (BitVec 8) → List (BitVec 32)
  | a :: b :: c :: d :: rest => BitVec.ofNat 32 (X86.leNat [a, b, c, d]) :: wordsOf rest
  | _ => []

private theorem words_movImm (opc sh : Nat) (val : BitVec 64) (ho : opc < 4) (hs : sh < 4) (hv : val.toNat < 65536) (rest : List (BitVec 8)) :
    wordsOf (Gen.Arm64.movImm (BitVec.ofNat 64 opc) (BitVec.ofNat 64 sh) val ++ rest) =
      BitVec.ofNat 32 (movN opc sh val.toNat) :: wordsOf rest := by
  obtain ⟨a, b, c, d, h⟩ := C15L.movImm_len4 (BitVec.ofNat 64 opc) (BitVec.ofNat 64 sh) val
  have eo : (BitVec.ofNat 64 opc).toNat = opc := by simp; omega
  have es : (BitVec.ofNat 64 sh).toNat = sh := by simp; omega
  have w := C15L.movImm_word (BitVec.ofNat 64 opc) (BitVec.ofNat 64 sh) val (by omega) (by omega) hv
  rw [h, eo, es] at w
  rw [h]
  simp only [List.cons_append, List.nil_append, wordsOf, w, movN]

private theorem movz_word_view (env : Env) (v : Nat) (hv : v < 65536) :
    view (decode env (BitVec.ofNat 32 (movN 2 0 v))) = some ("MOV", [.reg true 26, .imm64 (BitVec.ofNat 64 v)]) := by
  obtain ⟨hc, f1, f2, f3⟩ := movword 2 0 v (by omega) hv
  have e : (BitVec.ofNat 32 v).setWidth 64 = BitVec.ofNat 64 v := BitVec.eq_of_toNat_eq (by simp; omega)
  rw [decode_MOVZ64 env _ hc, f1, f2, f3]
  simp [e]

private theorem movk_word_view (env : Env) (h v : Nat) (hh : h < 4) (hv : v < 65536) :
    view (decode env (BitVec.ofNat 32 (movN 3 h v))) = some ("MOVK", [.reg true 26, .immShift v (16 * h)]) := by
  obtain ⟨hc, f1, f2, f3⟩ := movword 3 h v hh hv
  have e1 : ((BitVec.ofNat 32 v).setWidth 16).toNat = v := by simp; omega
  have e2 : ((BitVec.ofNat 32 h * 16#32).setWidth 8).toNat = 16 * h := by simp [BitVec.toNat_mul]; omega
  rw [decode_MOVK64 env _ hc, f1, f2, f3, e1, e2]

/-- the four move-wide words with which both emitters load `dx` into X26 (`movImm`), whatever bytes follow -/
private theorem mov_words_view (env : Env) (dx : BitVec 64) (rest : List (BitVec 8)) :
    (wordsOf (Gen.Arm64.movImm 2#64 0#64 (dx &&& 0xffff#64) ++ (Gen.Arm64.movImm 3#64 1#64 ((dx >>> 16) &&& 0xffff#64) ++
      (Gen.Arm64.movImm 3#64 2#64 ((dx >>> 32) &&& 0xffff#64) ++ (Gen.Arm64.movImm 3#64 3#64 ((dx >>> 48) &&& 0xffff#64) ++ rest))))).map
        (fun w => view (decode env w)) =
      some ("MOV", [.reg true 26, .imm64 (dx &&& 0xffff#64)]) ::
      some ("MOVK", [.reg true 26, .immShift ((dx >>> 16) &&& 0xffff#64).toNat 16]) ::
      some ("MOVK", [.reg true 26, .immShift ((dx >>> 32) &&& 0xffff#64).toNat 32]) ::
      some ("MOVK", [.reg true 26, .immShift ((dx >>> 48) &&& 0xffff#64).toNat 48]) ::
      (wordsOf rest).map (fun w => view (decode env w)) := by
  have l0 : (dx &&& 0xffff#64).toNat < 65536 := by rw [C15L.lane0]; omega
  have l1 : ((dx >>> 16) &&& 0xffff#64).toNat < 65536 := by rw [C15L.lane]; omega
  have l2 : ((dx >>> 32) &&& 0xffff#64).toNat < 65536 := by rw [C15L.lane]; omega
  have l3 : ((dx >>> 48) &&& 0xffff#64).toNat < 65536 := by rw [C15L.lane]; omega
  rw [words_movImm 2 0 _ (by decide) (by decide) l0, words_movImm 3 1 _ (by decide) (by decide) l1,
    words_movImm 3 2 _ (by decide) (by decide) l2, words_movImm 3 3 _ (by decide) (by decide) l3]
  simp only [List.map_cons]
  rw [movz_word_view env _ l0, movk_word_view env 1 _ (by omega) l1, movk_word_view env 2 _ (by omega) l2,
    movk_word_view env 3 _ (by omega) l3]
  simp

/-- CROSS-PROPERTY (C15 × C17): the six instruction words of the entry jump goom writes on arm64
    (`Gen.Arm64.jmpToFunctionValue`, regenerated from internal/patch/monkey_arm64.go) are, for EVERY target `dx`, decoded by goom's
    own decoder model as `MOV X26,#dx[15:0]` (the architectural alias of MOVZ hw=0, see decode_MOVZ64), `MOVK X26,#dx[16k+15:16k], LSL #16k`
    (k = 1,2,3), `LDR X10,[X26]`, `BR X10` — whatever the uninterpreted decoders do. -/
theorem emitted_entry_jump_decodes (env : Env) (from_ dx : BitVec 64) :
    (wordsOf (Gen.Arm64.jmpToFunctionValue from_ dx)).map (fun w => view (decode env w)) =
      [ some ("MOV", [.reg true 26, .imm64 (dx &&& 0xffff#64)]),
        some ("MOVK", [.reg true 26, .immShift ((dx >>> 16) &&& 0xffff#64).toNat 16]),
        some ("MOVK", [.reg true 26, .immShift ((dx >>> 32) &&& 0xffff#64).toNat 32]),
        some ("MOVK", [.reg true 26, .immShift ((dx >>> 48) &&& 0xffff#64).toNat 48]),
        some ("LDR", [.reg true 10, .mem 26 0]),
        some ("BR", [.reg true 10]) ] := by
  have hw : wordsOf ([0x4a#8, 0x3#8, 0x40#8, 0xf9#8] ++ [0x40#8, 0x1#8, 0x1f#8, 0xd6#8]) = [0xf940034a#32, 0xd61f0140#32] := by decide
  have hl : view (decode env 0xf940034a#32) = some ("LDR", [.reg true 10, .mem 26 0]) := by
    rw [decode_LDRuoff64 env _ (by decide)]; decide
  have hb : view (decode env 0xd61f0140#32) = some ("BR", [.reg true 10]) := by rw [decode_BR env _ (by decide)]; decide
  simp only [Gen.Arm64.jmpToFunctionValue, List.replicate, List.nil_append, List.append_assoc]
  rw [mov_words_view, hw, List.map_cons, List.map_cons, hl, hb]
  rfl

/-- the same for the interface stub (`Gen.IfaceArm64.jmpWithRdx`, internal/iface/jmp_arm64.go): scratch register X27 -/
theorem emitted_stub_jump_decodes (env : Env) (dx : BitVec 64) :
    (wordsOf (Gen.IfaceArm64.jmpWithRdx dx)).map (fun w => view (decode env w)) =
      [ some ("MOV", [.reg true 26, .imm64 (dx &&& 0xffff#64)]),
        some ("MOVK", [.reg true 26, .immShift ((dx >>> 16) &&& 0xffff#64).toNat 16]),
        some ("MOVK", [.reg true 26, .immShift ((dx >>> 32) &&& 0xffff#64).toNat 32]),
        some ("MOVK", [.reg true 26, .immShift ((dx >>> 48) &&& 0xffff#64).toNat 48]),
        some ("LDR", [.reg true 27, .mem 26 0]),
        some ("BR", [.reg true 27]) ] := by
  have hmi : Gen.IfaceArm64.movImm = Gen.Arm64.movImm := rfl
  have hw : wordsOf ([0x5b#8, 0x3#8, 0x40#8, 0xf9#8] ++ [0x60#8, 0x3#8, 0x1f#8, 0xd6#8]) = [0xf940035b#32, 0xd61f0360#32] := by decide
  have hl : view (decode env 0xf940035b#32) = some ("LDR", [.reg true 27, .mem 26 0]) := by
    rw [decode_LDRuoff64 env _ (by decide)]; decide
  have hb : view (decode env 0xd61f0360#32) = some ("BR", [.reg true 27]) := by rw [decode_BR env _ (by decide)]; decide
  simp only [Gen.IfaceArm64.jmpWithRdx, hmi, List.replicate, List.nil_append, List.append_assoc]
  rw [mov_words_view, hw, List.map_cons, List.map_cons, hl, hb]
  rfl

/-! ### totality of argument decoding — by mechanical translation of `decodeArg` (tools/a64args → Gen/A64Args.lean)

    `Gen.A64Args.decodeArgOut k x` is the Go `decodeArg(k, x)` as far as "non-nil / nil / panic" goes, produced from the Go AST on
    every run: all 311 case clauses, the four `handle_*` helpers, 91 of the 93 `canDecode` predicates (the two that call `bit_count`,
    a loop, are listed in `Gen.A64Args.untranslated`).  Every operation that can panic in Go (index, division by a variable, shift by a
    signed variable) is translated to an explicit test with a `panic` outcome; constructs outside the fragment make a case
    `unknown`.  `Gen.A64Args.badKinds` lists the kinds with a `panic` or `unknown` leaf; the generated lemma `decodeArgOut_ok` covers
    all others, for all words.  NOTE: the kernel does not check the translator's judgement of what can panic — a case
    without such an operation is emitted with the two-valued result type `Out2`, so `decodeArgOut_ok` is true by typing.  The content
    of `argdec_total` is therefore: the REGENERATED translation has no panic/unknown leaf in any kind a table row uses.  The translator
    is validated on every run against the real `decodeArg` and the real predicates, and statically against the same translation of the
    reference decoder (checks/C17.py `source_diff`).  NOT covered: termination of the one loop in `handle_bitmasks` (`Gen.A64Args.loops`), the value
    of the argument, and `Inst.String()`. -/

/-- for EVERY table row, every argument kind it uses and EVERY one of the 2^32 words, argument decoding returns an argument or
    nil: it never panics (and no row uses a kind outside the translated fragment). -/
theorem argdec_total (r : Row) (hr : r ∈ table) (k : Nat) (hk : k ∈ r.args) (x : BitVec 32) :
    Gen.A64Args.decodeArgOut k x = .val ∨ Gen.A64Args.decodeArgOut k x = .nil :=
  Gen.A64Args.decodeArgOut_ok k x (table_kinds_ok r hr k hk)

/-- … and in fact for every kind number whatsoever today: no case of the switch contains an operation that can panic -/
theorem argdec_no_partial_case : Gen.A64Args.badKinds = [] := by decide

/-- every `canDecode` predicate attached to a row is translated, except the two that count bits with a loop -/
theorem preds_translated :
    table.all (fun r => !r.cond || (genCond r.condId).isSome ||
      ["sxtl_sshll_asimdshf_l_cond", "uxtl_ushll_asimdshf_l_cond"].contains ((condNames[r.condId - 1]?).getD "")) = true := by
  decide +kernel

/-- ORACLE-FREE decoding: with the translated decoders and predicates plugged in, the result of `Decode` on any word no longer
    depends on the oracle, except through the untranslated predicates (two today): decodability, chosen row and opcode of all
    2^32 words are a function of the regenerated table and the regenerated translation alone. -/
theorem decodeFull_oracle_free (fb1 fb2 : Env) (x : BitVec 32)
    (hc : ∀ i c x, genCond c = none → fb1.condOk i c x = fb2.condOk i c x) :
    decodeFull fb1 x = decodeFull fb2 x :=
  decodeFrom_genEnv_indep fb1 fb2 x hc table 0 table_kinds_ok

/-- the class theorems above hold in particular for the oracle-free model -/
example (fb : Env) : view (decodeFull fb 0x94000010#32) = some ("BL", [.pcrel 64#64]) := by
  have := decode_BL (genEnv fb) 0x94000010#32 (by decide)
  have hs : specImm26 0x94000010#32 = 64#64 := by decide
  rw [hs] at this
  exact this

/-- `ADD W0, W0, #0, LSL #24` has shift field 2: `arg_IAddSub` returns nil (decode.go:111), so the word is not an ADD (immediate) -/
example : Gen.A64Args.decodeArgOut 16 0x11800000#32 = .nil ∧ Gen.A64Args.decodeArgOut 16 0x11400000#32 = .val := by decide

/-! ### what the scans rely on: "error / Op == 0" (func_arm64.go:45-58, :118-126) -/

/-- a successful decode never carries `Op == 0`: the `inst.Op == 0 && code[0] == 0x00` padding test of both scans can
    never fire on arm64; the scans stop on a decode error or the prologue only. -/
theorem decode_op_ne_zero (env : Env) (x : BitVec 32) (r : Res) (h : decode env x = some r) : r.op ≠ 0 := by
  obtain ⟨row, hm, ho, _, _⟩ := decodeFrom_row env table 0 r h
  have := forall_table (fun r => r.op != 0) (by decide +kernel) row hm
  rw [← ho]; simpa using this

/-- the zero word (what the linker pads with) is undecodable, whatever the uninterpreted decoders do -/
theorem decode_zero (env : Env) : decode env 0#32 = none := decode_op0_00xx_undecodable env 0#32 (by decide)

/-- whenever the first table row whose mask/value admits the word has no predicate and only interpreted argument kinds
    (or no row admits it), the result is the same for every oracle: the executable `decodeDef` the driver uses is sound. -/
theorem decodeDef_sound (env : Env) (x : BitVec 32) (r : Option Res) (h : decodeDef x = some r) : decode env x = r :=
  decodeDefFrom_sound env table 0 r h

example : (decodeDef 0xd503201f#32).map (fun r => view r) = some (some ("NOP", [])) := by decide +kernel

/-- func_arm64.go:131-137: in both branches the address returned is `start + curLen + rAddr` (mod 2^64), i.e. the
    architectural target of a branch with displacement `rAddr` located at `start + curLen` -/
theorem inner_target_arith (start : BitVec 64) (curLen : Nat) (rAddr a : BitVec 64) (h : innerTarget start curLen rAddr = some a) :
    a = start + BitVec.ofNat 64 curLen + rAddr := by
  unfold innerTarget at h
  split at h
  · exact (Option.some.inj h).symm
  · split at h
    · rw [← Option.some.inj h, BitVec.sub_eq_add_neg, BitVec.neg_neg]
    · exact absurd h (by simp)

/-- … and the only displacements for which neither branch is taken are backward ones that stay at or after `start` -/
theorem inner_target_skipped (start : BitVec 64) (curLen : Nat) (rAddr : BitVec 64) :
    innerTarget start curLen rAddr = none ↔ (rAddr.slt 0 = true ∧ (BitVec.ofNat 64 curLen + rAddr).slt 0 = false) := by
  unfold innerTarget
  cases h1 : rAddr.slt 0 <;> cases h2 : (BitVec.ofNat 64 curLen + rAddr).slt 0 <;> simp

example : innerTarget 0x400000#64 8 (-4#64) = none ∧ innerTarget 0x400000#64 8 (-12#64) = some 0x3ffffc#64
    ∧ innerTarget 0x400000#64 8 (64#64) = some 0x400048#64 := by decide

/-- CONVERSE of decode_B / decode_BL: whenever the decoder yields opcode "B" or "BL" with a PCRel FIRST argument `d`, the
    word IS an Arm ARM B/BL encoding (`x<30:26> = 00101`) and `d` is its architectural displacement `SignExtend(imm26:'00')`.
    (The only other row named "B" is B.cond, whose first argument is the condition.) -/
theorem call_result_is_call_word (env : Env) (x : BitVec 32) (r : Res) (d : BitVec 64) (h : decode env x = some r)
    (hop : opName r.op = "B" ∨ opName r.op = "BL") (hd : r.args.head? = some (.pcrel d)) :
    x &&& 0x7c000000#32 = 0x14000000#32 ∧ d = specImm26 x := by
  obtain ⟨row, hm, ho, hv, ha⟩ := decodeFrom_row env table 0 r h
  rcases call_row hm (ho ▸ isCall_iff.mpr hop) with ⟨hmask, hval, hargs⟩ | hcond
  · have hhead := decodeArgs_head env (a := .pcrel (slabel_imm26_2 x)) (by decide) rfl (hargs ▸ ha)
    obtain rfl : slabel_imm26_2 x = d := by simpa [hhead] using hd
    refine ⟨?_, slabel26_spec x⟩
    have hk : (0x7c000000#32) = 0xfc000000#32 &&& 0x7c000000#32 := by decide
    rw [hk, ← BitVec.and_assoc, ← hmask, hv]
    rcases hval with h | h <;> rw [h] <;> decide
  · obtain ⟨ks, hargs⟩ := List.head?_eq_some_iff.mp hcond
    have hhead := decodeArgs_head env (a := .cond (x &&& 0xf#32).toNat) (by decide) rfl (hargs ▸ ha)
    simp [hhead] at hd

example : ∀ env, ∃ r, decode env 0x97ffffff#32 = some r ∧ opName r.op = "BL" ∧ r.args.head? = some (.pcrel (-4#64)) := by
  intro env
  obtain ⟨r, hd, hn, ha⟩ := view_eq_some (decode_BL env 0x97ffffff#32 (by decide))
  exact ⟨r, hd, hn, by rw [ha]; decide⟩

/-- GetInnerFunc, soundness AND first-ness: an address is returned only for a word at an aligned offset `c ≤ 4096` that IS a B/BL
    encoding, the address is `start + c + SignExtend(imm26:'00')`, and it is the FIRST qualifying one: every aligned offset before
    `c` holds a decodable word for which no address is computed (not B/BL, or a backward branch staying inside), not followed by the
    function prologue. -/
theorem inner_func_addr (env : Env) (mem : Nat → BitVec 32) (start : BitVec 64) (fuel : Nat) (a : BitVec 64)
    (h : getInnerFunc env mem start fuel 0 false = .target a) :
    ∃ c, c % 4 = 0 ∧ c ≤ 4096 ∧ mem c &&& 0x7c000000#32 = 0x14000000#32 ∧
      a = start + BitVec.ofNat 64 c + specImm26 (mem c) ∧
      innerTarget start c (specImm26 (mem c)) = some a ∧
      (∀ k, k < c → k % 4 = 0 → ∃ rk, decode env (mem k) = some rk ∧ callHit start k rk = none ∧ prologueAt mem (k + 4) = false) := by
  obtain ⟨j, r, h3, h4, h5, h8⟩ := inner_target env mem start (decode_op_ne_zero env) fuel 0 a (by omega) h
  obtain ⟨d, hc, h6, h7⟩ := callHit_some h5
  obtain ⟨hw, rfl⟩ := call_result_is_call_word env _ r d h4 (isCall_iff.mp hc) h6
  have e : ∀ k, k % 4 = 0 → 0 + 4 * (k / 4) = k := fun k h => by omega
  exact ⟨0 + 4 * j, by omega, h3, hw, inner_target_arith _ _ _ _ h7, h7, fun k hk hk4 => e k hk4 ▸ h8 (k / 4) (by omega)⟩

/-- composition for the call encodings: if the scan meets a B/BL word first at offset `c` whose displacement qualifies,
    it returns exactly `start + c + SignExtend(imm26:'00')`.  (One step of the loop.) -/
theorem inner_func_call (env : Env) (mem : Nat → BitVec 32) (start : BitVec 64) (fuel c : Nat) (a : BitVec 64)
    (hx : mem c &&& 0x7c000000#32 = 0x14000000#32) (ht : innerTarget start c (specImm26 (mem c)) = some a) :
    getInnerFunc env mem start (fuel + 1) c false = .target a := by
  obtain ⟨r, hd, hcall, hargs⟩ : ∃ r, decode env (mem c) = some r ∧ isCall r.op = true ∧ r.args = [.pcrel (specImm26 (mem c))] := by
    rcases split_sf (mem c) _ _ hx with ⟨h, _⟩ | ⟨h, _⟩
    · obtain ⟨r, hd, hn, ha⟩ := view_eq_some (decode_B env _ h)
      exact ⟨r, hd, isCall_iff.mpr (.inl hn), ha⟩
    · obtain ⟨r, hd, hn, ha⟩ := view_eq_some (decode_BL env _ h)
      exact ⟨r, hd, isCall_iff.mpr (.inr hn), ha⟩
  simp only [getInnerFunc_succ env mem start (decode_op_ne_zero env), hd, callHit, hcall, hargs, if_true, List.head?_cons, ht]

/-- a wrapper whose first word is `BL .+64` -/
example : ∀ env, getInnerFunc env (fun c => if c = 0 then 0x94000010#32 else 0#32) 0x400000#64 1 0 false = .target 0x400040#64 :=
  fun env => inner_func_call env _ _ 0 0 _ (by decide) (by decide)

/-- the Go loop is bounded: 1026 iterations of fuel always suffice -/
theorem inner_func_terminates (env : Env) (mem : Nat → BitVec 32) (start : BitVec 64) :
    getInnerFunc env mem start 1026 0 false ≠ .fuel :=
  inner_fuel env mem start (decode_op_ne_zero env) 1026 0 (by omega) (by omega)

/-- GetFuncSize (uncached scan): the extent returned is a multiple of 4, every word before it decodes, no aligned offset strictly
    inside it holds the function prologue, and it is the offset of the first undecodable word or of the prologue met
    after at least one instruction — nothing else can stop the scan (`minimal` and the int0 flags are dead on arm64: no decode has Op 0). -/
theorem func_size_extent (env : Env) (mem : Nat → BitVec 32) (minimal : Bool) (fuel n : Nat)
    (h : getFuncSize env mem minimal fuel 0 false = some n) :
    n % 4 = 0 ∧ (∀ k, k < n → k % 4 = 0 → (decode env (mem k)).isSome = true) ∧
      (∀ k, 0 < k → k < n → k % 4 = 0 → prologueAt mem k = false) ∧
      (decode env (mem n) = none ∨ (0 < n ∧ prologueAt mem n = true)) := by
  obtain ⟨j, rfl, h3, h4⟩ := funcSize_extent env mem (decode_op_ne_zero env) minimal fuel 0 n h
  have e : ∀ k, k % 4 = 0 → 0 + 4 * (k / 4) = k := fun k h => by omega
  exact ⟨by omega, fun k hk hk4 => e k hk4 ▸ (h3 (k / 4) (by omega)).1,
    fun k h0 hk hk4 => e k hk4 ▸ (h3 (k / 4) (by omega)).2 (by omega), h4.imp_right fun h => ⟨by omega, h.2⟩⟩

/-- GetFuncSize WITH its cache (func_arm64.go:31-37): a first call on an empty cache entry returns the scanned extent and
    stores it; every later call for the same `start` returns that same extent (whatever the memory holds by then) and keeps the entry. -/
theorem func_size_cached (env : Env) (mem mem' : Nat → BitVec 32) (minimal minimal' : Bool) (fuel fuel' n : Nat)
    (h : getFuncSize env mem minimal fuel 0 false = some n) :
    getFuncSizeCached env mem minimal fuel none = some (n, some n) ∧
    getFuncSizeCached env mem' minimal' fuel' (some n) = some (n, some n) := by
  simp [getFuncSizeCached, h]

/-- zero padding ends a function: NOP; zero word -/
example : ∀ env, getFuncSize env (fun c => if c = 0 then 0xd503201f#32 else 0#32) false 3 0 false = some 4 := by
  intro env
  -- the scan is unfolded over a variable memory; only its words at 0 and 4 matter
  generalize hmem : (fun c => if c = 0 then 0xd503201f#32 else 0#32) = mem
  have m0 : mem 0 = 0xd503201f#32 := by rw [← hmem]; rfl
  have m4 : mem 4 = 0#32 := by rw [← hmem]; rfl
  have hp : prologueAt mem 4 = false := by rw [← hmem]; rfl
  have hop := decode_op_ne_zero env
  obtain ⟨r, h1, _⟩ := view_eq_some (decode_NOP env)
  rw [getFuncSize_succ env mem hop false 2 0, m0, h1]
  simp only [Nat.zero_add, hp, Bool.false_eq_true, if_false]
  rw [getFuncSize_succ env mem hop false 1 4, m4, decode_zero env]

end C17
