import GoomVerif.Model.ConvertNow
/-!
# C09 note — a bare `[]interface{}` given to `Returns(...)` / `Matches(Pair{Return: …})` is a tuple, not a value

Observed on the real code:
`Func(func() interface{}).Returns([]interface{}{7})` delivers `7`; `Return([]interface{}{7})` delivers the slice;
`Func(func() []interface{}).Returns([]interface{}{7, 8})` panics "the number of args does not match".

This is goom's documented convention, not an alteration: `Returns` "如果是多参可使用[]interface{}" (mocker.go:579),
`When.Returns`/`Matches` test `v.([]interface{})` (when.go:183, :201) to tell a result tuple from a single result, and Go
offers no way to distinguish a bare `[]interface{}` value from such a tuple.  To return the slice itself it has to be
wrapped: `Returns([]interface{}{[]interface{}{7}})` — the check exercises exactly that (`list 1 anys …`) and the slice
arrives intact.  The model makes the convention explicit: `PairRet.one` never carries a `[]interface{}` (`PairRet.WF`),
and the theorems about bare values have that hypothesis.  Not a finding against the property; recorded so that the
boundary is visible.  Related edge (configuration mistakes, property C13 rather than C09): a typed nil
`[]interface{}(nil)` as `Pair.Return` is accepted by `Matches` and fails only at call time (index out of range).
-/
namespace Findings.C09AnySlice
open Convert

/-- the escape: the list form with one element delivers that element as the single result -/
theorem wrapped_is_single (b : Boxed) : (PairRet.list [b]).results = [b] := rfl

/-- a `[]interface{}`-typed bare value is outside `PairRet.WF` -/
theorem anySlice_not_bare (x : Val) : ¬ (PairRet.one (some (.slice (.iface []), x))).WF := by
  simp [PairRet.WF, isAnySlice]

end Findings.C09AnySlice
