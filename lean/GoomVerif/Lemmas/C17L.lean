import GoomVerif.Model.A64Dec
import GoomVerif.Model.A64Full
import GoomVerif.Lemmas.C15L
/-! The Arm ARM displacement formulas against decode.go's shift idiom, the first-match search over the decoding
    table for every oracle, and the two scans of func_arm64.go. -/
namespace C17L
open Gen.A64 A64Dec

/-! ### Arm ARM formulas (DDI 0487, C6.2: B, BL, B.cond, CBZ, CBNZ, TBZ, TBNZ, ADR, ADRP, LDR (literal)) -/

/-- `SignExtend(imm26:'00', 64)`, imm26 = x<25:0> -/
def specImm26 (x : BitVec 32) : BitVec 64 := ((x.extractLsb' 0 26) ++ 0#2).signExtend 64
/-- `SignExtend(imm19:'00', 64)`, imm19 = x<23:5> -/
def specImm19 (x : BitVec 32) : BitVec 64 := ((x.extractLsb' 5 19) ++ 0#2).signExtend 64
/-- `SignExtend(imm14:'00', 64)`, imm14 = x<18:5> -/
def specImm14 (x : BitVec 32) : BitVec 64 := ((x.extractLsb' 5 14) ++ 0#2).signExtend 64
/-- ADR: `SignExtend(immhi:immlo, 64)`, immhi = x<23:5>, immlo = x<30:29> -/
def specAdr (x : BitVec 32) : BitVec 64 := ((x.extractLsb' 5 19) ++ (x.extractLsb' 29 2)).signExtend 64
/-- ADRP: `SignExtend(immhi:immlo:Zeros(12), 64)` -/
def specAdrp (x : BitVec 32) : BitVec 64 := ((x.extractLsb' 5 19) ++ (x.extractLsb' 29 2) ++ 0#12).signExtend 64

/-- Go's `(y << n) >> n` on a signed integer keeps the low `k` bits of `y` and extends their sign -/
theorem sshiftRight_shiftLeft {w : Nat} {y : BitVec w} (n k : Nat) (h : n + k = w) (hk : 0 < k) :
    (y <<< n).sshiftRight n = (y.setWidth k).signExtend w := by
  apply BitVec.eq_of_getLsbD_eq
  intro i hi
  rw [BitVec.getLsbD_sshiftRight, BitVec.getLsbD_signExtend, BitVec.msb_eq_getLsbD_last, BitVec.msb_eq_getLsbD_last,
    BitVec.getLsbD_shiftLeft, BitVec.getLsbD_shiftLeft, BitVec.getLsbD_setWidth, BitVec.getLsbD_setWidth]
  by_cases h1 : i < k
  · simp [show n + i < w by omega, show n + i - n = i by omega, show ¬ w ≤ i by omega, h1, hi]
  · simp [show ¬ n + i < w by omega, show w - 1 - n = k - 1 by omega, show ¬ w ≤ i by omega, show ¬ w - 1 < n by omega,
      show w - 1 < w by omega, show k - 1 < k by omega, h1, hi]

section
variable (x : BitVec 32)

theorem and_mask (k : Nat) (m : BitVec 32) (hm : m.toNat = 2 ^ k - 1) : (x &&& m).toNat = x.toNat % 2 ^ k := by
  rw [BitVec.toNat_and, hm, Nat.and_two_pow_sub_one_eq_mod]

theorem shr_and_mask (lo k : Nat) (m : BitVec 32) (hm : m.toNat = 2 ^ k - 1) :
    (x >>> lo) &&& m = (x.extractLsb' lo k).setWidth 32 := by
  apply BitVec.eq_of_toNat_eq
  rw [and_mask _ k m hm, BitVec.toNat_setWidth, BitVec.extractLsb'_toNat, BitVec.toNat_ushiftRight]
  have h1 : x.toNat >>> lo % 2 ^ k ≤ x.toNat >>> lo := Nat.mod_le _ _
  have h2 : x.toNat >>> lo ≤ x.toNat := Nat.shiftRight_le _ _
  exact (Nat.mod_eq_of_lt (by have := x.isLt; omega)).symm

/-- decode.go's `(int64(field) << a) << n >> n`: the field, `a` zero bits, sign-extended -/
theorem sext_field {k : Nat} {e : BitVec k} (a n : Nat) (hk : k ≤ 32) (h : n + (k + a) = 64) (hpos : 0 < k + a) :
    ((((e.setWidth 32).setWidth 64) <<< a) <<< n).sshiftRight n = (e ++ 0#a).signExtend 64 := by
  have h64 : (e ++ 0#a).setWidth 64 = e.setWidth 64 <<< a := by
    rw [BitVec.setWidth_append_eq_shiftLeft_setWidth_or, BitVec.setWidth_zero, BitVec.or_zero]
  rw [sshiftRight_shiftLeft n (k + a) h hpos, BitVec.setWidth_setWidth (by omega), ← h64,
    BitVec.setWidth_setWidth_of_le _ (by omega), BitVec.setWidth_eq]

theorem slabel26_spec : slabel_imm26_2 x = specImm26 x := by
  have h := shr_and_mask x 0 26 0x3ffffff#32 rfl
  rw [BitVec.ushiftRight_zero] at h
  rw [slabel_imm26_2, h]
  exact sext_field 2 36 (by decide) rfl (by decide)

theorem slabel19_spec : slabel_imm19_2 x = specImm19 x := by
  rw [slabel_imm19_2, shr_and_mask x 5 19 _ rfl]
  exact sext_field 2 43 (by decide) rfl (by decide)

theorem slabel14_spec : slabel_imm14_2 x = specImm14 x := by
  rw [slabel_imm14_2, shr_and_mask x 5 14 _ rfl]
  exact sext_field 2 48 (by decide) rfl (by decide)

theorem slabelAdrp_spec : slabel_immhi_immlo_12 x = specAdrp x := by
  rw [slabel_immhi_immlo_12, shr_and_mask x 5 19 _ rfl, shr_and_mask x 29 2 _ rfl, ← BitVec.setWidth_append_eq_shiftLeft_setWidth_or]
  exact sext_field 12 31 (by decide) rfl (by decide)

theorem slabelAdr_spec : slabel_immhi_immlo_0 x = specAdr x := by
  rw [slabel_immhi_immlo_0, shr_and_mask x 5 19 _ rfl, shr_and_mask x 29 2 _ rfl, ← BitVec.setWidth_append_eq_shiftLeft_setWidth_or,
    sshiftRight_shiftLeft 43 (19 + 2) rfl (by decide), BitVec.setWidth_setWidth_of_le _ (by decide),
    BitVec.setWidth_setWidth_of_le _ (by decide), BitVec.setWidth_eq]
  rfl

end

def chunks : List (List Row) :=
  [chunk0, chunk1, chunk2, chunk3, chunk4, chunk5, chunk6, chunk7, chunk8, chunk9, chunk10, chunk11, chunk12, chunk13, chunk14,
   chunk15, chunk16, chunk17, chunk18]

/-- `table` is written `chunk0 ++ chunk1 ++ …`, nested to the left, so evaluating through it walks a row once for every
    append around it.  Everything evaluated below goes through `chunks` instead. -/
theorem table_eq : table = chunks.flatten := by
  have h := List.foldl_append_eq_append (l := chunks) (f := fun c => c) (l' := [])
  rw [List.map_id', List.nil_append] at h
  exact h

theorem forall_table (p : Row → Bool) (h : chunks.all (·.all p) = true) : ∀ r ∈ table, p r = true := by
  intro r hr
  rw [table_eq, List.mem_flatten] at hr
  obtain ⟨c, hc, hrc⟩ := hr
  exact List.all_eq_true.mp (List.all_eq_true.mp h c hc) r hrc

/-- the opcodes whose name (inst.go:21 `Op.String`) is `s` -/
def opsNamed (s : String) : List Nat := (opNames.zipIdx.filter (·.1 == s)).map (·.2)

theorem mem_opsNamed {op : Nat} {s : String} (hs : s ≠ "") (h : opName op = s) : op ∈ opsNamed s := by
  unfold opName at h
  cases hn : opNames[op]? with
  | none => rw [hn] at h; exact absurd h.symm hs
  | some n =>
    rw [hn] at h
    subst h
    exact List.mem_map.mpr ⟨(n, op), List.mem_filter.mpr ⟨List.mem_zipIdx_iff_getElem?.mpr hn, beq_self_eq_true n⟩, rfl⟩

theorem isCall_iff {op : Nat} : isCall op = true ↔ opName op = "B" ∨ opName op = "BL" := by
  simp [isCall]

/-- the rows carrying the opcodes `GetInnerFunc` looks for (func_arm64.go:128; numbers 21 and 29 in the regenerated `opNames`):
    B, BL, and B.cond, whose first argument is the condition -/
theorem call_row {r : Row} (hr : r ∈ table) (h : isCall r.op = true) :
    (r.mask = 0xfc000000#32 ∧ (r.value = 0x14000000#32 ∨ r.value = 0x94000000#32) ∧ r.args = [arg_slabel_imm26_2, 0, 0, 0, 0]) ∨
      r.args.head? = some arg_conditional := by
  have hm : r.op ∈ opsNamed "B" ++ opsNamed "BL" :=
    List.mem_append.mpr ((isCall_iff.mp h).imp (mem_opsNamed (by decide)) (mem_opsNamed (by decide)))
  rw [show opsNamed "B" ++ opsNamed "BL" = [21, 29] by decide +kernel] at hm
  have hrow := forall_table (fun r => !(r.op == 21 || r.op == 29) ||
      ((r.mask == 0xfc000000#32) && ((r.value == 0x14000000#32) || (r.value == 0x94000000#32)) && (r.args == [arg_slabel_imm26_2, 0, 0, 0, 0])) ||
      (r.args.head? == some arg_conditional)) (by decide +kernel) r hr
  have hop : (r.op == 21 || r.op == 29) = true := by simpa using hm
  simpa [hop, and_assoc] using hrow

section search
variable (env : Env) {x m v : BitVec 32} {r : Row} {rs : List Row} {i : Nat}

theorem condVal_interp {c : Nat} {f : BitVec 32 → Bool} (i : Nat) (x : BitVec 32) (hf : interpCond c = some f) :
    condVal env i c x = f x := by
  rw [condVal, hf]

/-- decode.go:51,54: a row is passed over if the word does not match it or its `canDecode` says no -/
theorem decodeFrom_cons_skip (h : x &&& r.mask ≠ r.value ∨ (r.cond = true ∧ condVal env i r.condId x = false)) :
    decodeFrom env (r :: rs) i x = decodeFrom env rs (i + 1) x := by
  rw [decodeFrom]
  rcases h with h | ⟨hc, hv⟩
  · rw [if_pos (bne_iff_ne.mpr h)]
  · rw [hc, hv]
    split <;> rfl

theorem decodeArgs_interpreted : ∀ ks, argsInterpreted ks = true → decodeArgs env i ks x = some (argsOf ks x) := by
  intro ks
  induction ks with
  | nil => intro _; rfl
  | cons k ks ih =>
    intro h
    unfold argsInterpreted at h
    unfold decodeArgs argsOf
    by_cases hk : k = 0
    · simp only [hk, if_true]
    · simp only [hk, if_false, Bool.and_eq_true, interpreted, Option.isSome_iff_exists] at h ⊢
      obtain ⟨⟨kd, hkd⟩, h2⟩ := h
      simp only [decodeArg, interp, hkd, Option.map_some, ih h2]

theorem decodeArgs_head {k : Nat} {ks : List Nat} {a : Arg} {as : List Arg} (hk : k ≠ 0)
    (hi : interp k x = some a) (h : decodeArgs env i (k :: ks) x = some as) : as.head? = some a := by
  rw [decodeArgs, if_neg hk, decodeArg, hi] at h
  obtain ⟨t, -, rfl⟩ := Option.map_eq_some_iff.mp h
  rfl

/-- decode.go:71: a matching row whose `canDecode` (if any) says yes and whose kinds the model interprets is taken, whatever the oracle -/
theorem decodeFrom_cons_hit (hm : x &&& r.mask = r.value) (hc : r.cond = true → condVal env i r.condId x = true)
    (ha : argsInterpreted r.args = true) : decodeFrom env (r :: rs) i x = some ⟨i, r.op, argsOf r.args x⟩ := by
  have hc' : (r.cond && !condVal env i r.condId x) = false := by
    cases h : r.cond
    · rfl
    · rw [hc h]; rfl
  rw [decodeFrom, if_neg (by simp [hm]), hc', if_neg (by decide), decodeArgs_interpreted env _ ha]

/-- the encodings of row `r` intersect the class `x &&& m = v`: where both masks look, the values agree.
    (Spelt with `Nat.land`, `Nat.xor`, `Nat.beq`, which the kernel evaluates on literals without unfolding instances.) -/
def overlaps (m v : BitVec 32) (r : Row) : Bool :=
  Nat.beq (Nat.land (Nat.xor r.value.toNat v.toNat) (Nat.land r.mask.toNat m.toNat)) 0

theorem overlaps_of_match (h1 : x &&& m = v) (h2 : x &&& r.mask = r.value) : overlaps m v r = true := by
  have h : (r.value ^^^ v) &&& (r.mask &&& m) = 0#32 := by
    rw [← h1, ← h2]
    ext i hi
    simp only [BitVec.getElem_and, BitVec.getElem_xor, BitVec.getElem_zero]
    cases x[i] <;> cases m[i] <;> cases r.mask[i] <;> rfl
  have e : Nat.land (Nat.xor r.value.toNat v.toNat) (Nat.land r.mask.toNat m.toNat) = 0 := congrArg BitVec.toNat h
  rw [overlaps, e]
  rfl

/-- `rows` from its first row that `overlaps` the class on, with that row's index (`i` = index of the head of `rows`) -/
def skipTo (m v : BitVec 32) : List Row → Nat → Nat × List Row
  | [], i => (i, [])
  | r :: rs, i => if overlaps m v r then (i, r :: rs) else skipTo m v rs (i + 1)

theorem decodeFrom_skipTo (hx : x &&& m = v) :
    ∀ rows i, decodeFrom env rows i x = decodeFrom env (skipTo m v rows i).2 (skipTo m v rows i).1 x := by
  intro rows
  induction rows with
  | nil => intro i; rfl
  | cons r rs ih =>
    intro i
    rw [skipTo]
    split
    · rfl
    · rename_i ho
      rw [decodeFrom_cons_skip env (.inl fun hm => ho (overlaps_of_match hx hm)), ih]

theorem decode_skipTo (hx : x &&& m = v) :
    decode env x = decodeFrom env (skipTo m v chunks.flatten 0).2 (skipTo m v chunks.flatten 0).1 x := by
  rw [decode, table_eq, decodeFrom_skipTo env hx]

/-- row `r` covers the class (every word of the class matches its mask/value), carries opcode `name` and exactly the argument
    kinds `kinds`, all interpreted by the model -/
def rowOk (m v : BitVec 32) (r : Row) (name : String) (kinds : List Nat) : Bool :=
  (r.mask &&& m == r.mask) && (v &&& r.mask == r.value) && (opName r.op == name) && (r.args == kinds) && argsInterpreted kinds

theorem hit_of_rowOk {name : String} {kinds : List Nat} (hx : x &&& m = v) (h : rowOk m v r name kinds = true)
    (hc : r.cond = true → condVal env i r.condId x = true) :
    (decodeFrom env (r :: rs) i x).map (fun r => (opName r.op, r.args)) = some (name, argsOf kinds x) := by
  simp only [rowOk, Bool.and_eq_true, beq_iff_eq] at h
  obtain ⟨⟨⟨⟨h1, h2⟩, h3⟩, h4⟩, h5⟩ := h
  have hm : x &&& r.mask = r.value := by rw [← h2, ← hx, BitVec.and_assoc, BitVec.and_comm m, h1]
  rw [decodeFrom_cons_hit env hm hc (h4 ▸ h5), Option.map_some, h3, h4]

/-- what is evaluated on the regenerated table for a class (m, v): the first row intersecting the class is as `rowOk` says and
    has no `canDecode` -/
def classCheck (m v : BitVec 32) (name : String) (kinds : List Nat) : Bool :=
  match (skipTo m v chunks.flatten 0).2 with
  | r :: _ => rowOk m v r name kinds && !r.cond
  | [] => false

/-- rows that do not intersect a class are skipped for every word of the class; the first intersecting row, if it covers the class,
    has no predicate and only interpreted kinds, is the one `Decode` returns — whatever the oracle. -/
theorem decode_class (name : String) (kinds : List Nat) (hc : classCheck m v name kinds = true) (hx : x &&& m = v) :
    (decode env x).map (fun r => (opName r.op, r.args)) = some (name, argsOf kinds x) := by
  rw [decode_skipTo env hx]
  unfold classCheck at hc
  split at hc
  · rename_i r rest heq
    rw [Bool.and_eq_true, Bool.not_eq_true'] at hc
    rw [heq]
    exact hit_of_rowOk env hx hc.1 fun h => absurd h (by simp [hc.2])
  · exact absurd hc (by decide)

theorem decode_noHit (hc : (skipTo m v chunks.flatten 0).2.isEmpty = true) (hx : x &&& m = v) : decode env x = none := by
  rw [decode_skipTo env hx, List.isEmpty_iff.mp hc]
  rfl

/-- the same for a class whose first intersecting row is an ALIAS with an interpreted `canDecode` (id `c`) and whose next row is
    the plain encoding -/
def classCheck2 (m v : BitVec 32) (c : Nat) (n1 : String) (k1 : List Nat) (n2 : String) (k2 : List Nat) : Bool :=
  match (skipTo m v chunks.flatten 0).2 with
  | r1 :: r2 :: _ => rowOk m v r1 n1 k1 && r1.cond && (r1.condId == c) && rowOk m v r2 n2 k2 && !r2.cond
  | _ => false

theorem decode_class2 (c : Nat) {f : BitVec 32 → Bool} (hf : interpCond c = some f)
    (n1 : String) (k1 : List Nat) (n2 : String) (k2 : List Nat) (hc : classCheck2 m v c n1 k1 n2 k2 = true) (hx : x &&& m = v) :
    (decode env x).map (fun r => (opName r.op, r.args)) = if f x then some (n1, argsOf k1 x) else some (n2, argsOf k2 x) := by
  rw [decode_skipTo env hx]
  unfold classCheck2 at hc
  split at hc
  · rename_i r1 r2 rest heq
    simp only [Bool.and_eq_true, beq_iff_eq, Bool.not_eq_true'] at hc
    obtain ⟨⟨⟨⟨a1, a2⟩, a3⟩, b1⟩, b2⟩ := hc
    have hv := condVal_interp env (skipTo m v chunks.flatten 0).1 x (a3 ▸ hf)
    rw [heq]
    cases hfx : f x
    · rw [decodeFrom_cons_skip env (.inr ⟨a2, hv.trans hfx⟩)]
      exact hit_of_rowOk env hx b1 fun h => absurd h (by simp [b2])
    · exact hit_of_rowOk env hx a1 fun _ => hv.trans hfx
  · exact absurd hc (by decide)

theorem decodeFrom_row : ∀ rows i r, decodeFrom env rows i x = some r →
    ∃ row ∈ rows, row.op = r.op ∧ x &&& row.mask = row.value ∧ decodeArgs env r.row row.args x = some r.args := by
  intro rows
  induction rows with
  | nil => intro i r h; simp [decodeFrom] at h
  | cons r0 rs ih =>
    intro i r h
    have next := fun h => (ih (i + 1) r h).imp fun _ h1 => And.intro (List.mem_cons_of_mem r0 h1.1) h1.2
    unfold decodeFrom at h
    split at h
    · exact next h
    · rename_i hmatch
      split at h
      · exact next h
      · split at h
        · exact next h
        · rename_i as has
          obtain rfl := Option.some.inj h
          exact ⟨r0, List.mem_cons_self, rfl, by simpa using hmatch, has⟩

theorem decodeDefFrom_sound : ∀ rows i r, decodeDefFrom rows i x = some r → decodeFrom env rows i x = r := by
  intro rows
  induction rows with
  | nil => intro i r h; exact Option.some.inj h
  | cons r0 rs ih =>
    intro i r h
    unfold decodeDefFrom at h
    split at h
    · rename_i hm
      rw [decodeFrom_cons_skip env (.inl (bne_iff_ne.mp hm))]
      exact ih _ _ h
    · rename_i hm
      have hm : x &&& r0.mask = r0.value := by simpa using hm
      split at h
      · rename_i hc
        split at h
        · exact absurd h (by simp)
        · rename_i f hf
          have hv := condVal_interp env i x hf
          split at h
          · rename_i hfx
            split at h
            · rename_i ha
              rw [decodeFrom_cons_hit env hm (fun _ => hv.trans hfx) ha]
              exact Option.some.inj h
            · exact absurd h (by simp)
          · rename_i hfx
            rw [decodeFrom_cons_skip env (.inr ⟨hc, hv.trans (by simpa using hfx)⟩)]
            exact ih _ _ h
      · rename_i hc
        split at h
        · exact absurd h (by simp)
        · rename_i ha
          rw [decodeFrom_cons_hit env hm (fun h => absurd h hc) (by simpa using ha)]
          exact Option.some.inj h

end search

theorem callHit_some {start : BitVec 64} {c : Nat} {r : Res} {a : BitVec 64} (h : callHit start c r = some a) :
    ∃ d, isCall r.op = true ∧ r.args.head? = some (.pcrel d) ∧ innerTarget start c d = some a := by
  unfold callHit at h
  split at h
  · rename_i hc
    split at h
    · rename_i d hd; exact ⟨d, hc, hd, h⟩
    · exact absurd h (by simp)
  · exact absurd h (by simp)

section scans
/- No successful decode carries `Op == 0` (`hop`, proved of the table in Props/C17), so the padding test `isInt0` of both scans
   never fires and their `int0Found` flag stays false.  Offsets are written `c + 4 * j`: iteration `j` of a scan started at `c`. -/
variable (env : Env) (mem : Nat → BitVec 32) (start : BitVec 64)

theorem isInt0_false (hop : ∀ w r, decode env w = some r → r.op ≠ 0) {r : Res} {w : BitVec 32} (hd : decode env w = some r) : isInt0 r w = false := by
  simp [isInt0, hop w r hd]

/-- one iteration of GetInnerFunc (func_arm64.go:117-150) -/
theorem getInnerFunc_succ (hop : ∀ w r, decode env w = some r → r.op ≠ 0) (fuel c : Nat) :
    getInnerFunc env mem start (fuel + 1) c false =
      match decode env (mem c) with
      | none => .err
      | some r =>
        match callHit start c r with
        | some a => .target a
        | none => if prologueAt mem (c + 4) then .zero else if c + 4 > 4096 then .zero else getInnerFunc env mem start fuel (c + 4) false := by
  rw [getInnerFunc]
  cases hd : decode env (mem c) with
  | none => rfl
  | some r =>
    simp only [isInt0_false env hop hd, Bool.not_false, Bool.true_and, Bool.or_false, Bool.false_eq_true, if_false]
    rfl

theorem inner_target (hop : ∀ w r, decode env w = some r → r.op ≠ 0) : ∀ fuel c a, c ≤ 4096 → getInnerFunc env mem start fuel c false = .target a →
    ∃ j r, c + 4 * j ≤ 4096 ∧ decode env (mem (c + 4 * j)) = some r ∧ callHit start (c + 4 * j) r = some a ∧
      ∀ i < j, ∃ rk, decode env (mem (c + 4 * i)) = some rk ∧ callHit start (c + 4 * i) rk = none ∧
        prologueAt mem (c + 4 * i + 4) = false := by
  intro fuel
  induction fuel with
  | zero => intro c a _ h; exact absurd h (by simp [getInnerFunc])
  | succ fuel ih =>
    intro c a hc h
    rw [getInnerFunc_succ env mem start hop] at h
    split at h
    · exact absurd h (by simp)
    · rename_i r hr
      split at h
      · rename_i a' ha
        exact ⟨0, r, hc, hr, Inner.target.inj h ▸ ha, fun i hi => absurd hi (Nat.not_lt_zero i)⟩
      · rename_i hnone
        split at h
        · exact absurd h (by simp)
        · rename_i hpro
          split at h
          · exact absurd h (by simp)
          · obtain ⟨j, r', h1, h2, h3, h4⟩ := ih (c + 4) a (by omega) h
            have e : ∀ i, c + 4 + 4 * i = c + 4 * (i + 1) := fun i => by omega
            rw [e] at h1 h2 h3
            refine ⟨j + 1, r', h1, h2, h3, fun i hi => ?_⟩
            cases i with
            | zero => exact ⟨r, hr, hnone, by simpa using hpro⟩
            | succ i => exact e i ▸ h4 i (by omega)

/-- with fuel for 1026 iterations the model never runs dry (the Go loop is bounded by `curLen > 4096`) -/
theorem inner_fuel (hop : ∀ w r, decode env w = some r → r.op ≠ 0) : ∀ fuel c, c ≤ 4100 → 4100 < c + 4 * fuel → getInnerFunc env mem start fuel c false ≠ .fuel := by
  intro fuel
  induction fuel with
  | zero => intro c h0 h; omega
  | succ fuel ih =>
    intro c h0 h
    rw [getInnerFunc_succ env mem start hop]
    split
    · simp
    · split
      · simp
      · split
        · simp
        · split
          · simp
          · exact ih (c + 4) (by omega) (by omega)

/-- one iteration of GetFuncSize (func_arm64.go:42-66) -/
theorem getFuncSize_succ (hop : ∀ w r, decode env w = some r → r.op ≠ 0) (minimal : Bool) (fuel c : Nat) :
    getFuncSize env mem minimal (fuel + 1) c false =
      match decode env (mem c) with
      | none => some c
      | some _ => if prologueAt mem (c + 4) then some (c + 4) else getFuncSize env mem minimal fuel (c + 4) false := by
  rw [getFuncSize]
  cases hd : decode env (mem c) with
  | none => rfl
  | some r =>
    simp only [isInt0_false env hop hd, Bool.false_and, Bool.not_false, Bool.true_and, Bool.or_false, Bool.false_eq_true, if_false]

theorem funcSize_extent (hop : ∀ w r, decode env w = some r → r.op ≠ 0) (minimal : Bool) : ∀ fuel c n, getFuncSize env mem minimal fuel c false = some n →
    ∃ j, n = c + 4 * j ∧ (∀ i < j, (decode env (mem (c + 4 * i))).isSome = true ∧ (0 < i → prologueAt mem (c + 4 * i) = false)) ∧
      (decode env (mem n) = none ∨ (0 < j ∧ prologueAt mem n = true)) := by
  intro fuel
  induction fuel with
  | zero => intro c n h; exact absurd h (by simp [getFuncSize])
  | succ fuel ih =>
    intro c n h
    rw [getFuncSize_succ env mem hop] at h
    split at h
    · rename_i hd
      obtain rfl := Option.some.inj h
      exact ⟨0, rfl, fun i hi => absurd hi (Nat.not_lt_zero i), .inl hd⟩
    · rename_i r hr
      have hc : (decode env (mem (c + 4 * 0))).isSome = true ∧ (0 < 0 → prologueAt mem (c + 4 * 0) = false) :=
        ⟨by rw [show c + 4 * 0 = c from rfl, hr]; rfl, fun h => absurd h (Nat.lt_irrefl 0)⟩
      split at h
      · rename_i hp
        obtain rfl := Option.some.inj h
        exact ⟨1, rfl, fun i hi => (show i = 0 by omega) ▸ hc, .inr ⟨Nat.one_pos, hp⟩⟩
      · rename_i hp
        obtain ⟨j, rfl, h3, h4⟩ := ih (c + 4) n h
        have e : ∀ i, c + 4 + 4 * i = c + 4 * (i + 1) := fun i => by omega
        refine ⟨j + 1, e j, fun i hi => ?_, h4.imp_right fun h => ⟨Nat.succ_pos j, h.2⟩⟩
        cases i with
        | zero => exact hc
        | succ i =>
          have := h3 i (by omega)
          rw [e] at this
          exact ⟨this.1, fun _ => (Nat.eq_zero_or_pos i).elim (fun h0 => by subst h0; simpa using hp) this.2⟩

end scans

/-- register-size bit `sf` / `b5` = bit 31 -/
def bit31 (x : BitVec 32) : Bool := ((x >>> 31) &&& 1#32) != 0#32

theorem split_sf (x m v : BitVec 32) (hx : x &&& m = v) :
    (x &&& (m ||| 0x80000000#32) = v ∧ bit31 x = false) ∨ (x &&& (m ||| 0x80000000#32) = v ||| 0x80000000#32 ∧ bit31 x = true) := by
  have h1 : (1#32) = BitVec.twoPow 32 0 := by decide
  have h2 : (0x80000000#32) = BitVec.twoPow 32 31 := by decide
  rw [BitVec.and_or_distrib_left, hx, bit31, h1, h2, BitVec.and_twoPow, BitVec.and_twoPow, BitVec.getLsbD_ushiftRight]
  cases x.getLsbD 31
  · exact .inl ⟨BitVec.or_zero, by decide⟩
  · exact .inr ⟨rfl, by decide⟩

/-- the move-wide word `movImm` builds (monkey_arm64.go:35, jmp_arm64.go:30; `C15L.movImm_word`), as a number -/
def movN (opc h v : Nat) : Nat := 2^31 + opc * 2^29 + 37 * 2^23 + h * 2^21 + v * 32 + 26

theorem movword (opc h v : Nat) (hh : h < 4) (hv : v < 65536) :
    BitVec.ofNat 32 (movN opc h v) &&& 0xff800000#32 = BitVec.ofNat 32 ((256 + opc * 64 + 37) * 2^23) ∧
    r5 (BitVec.ofNat 32 (movN opc h v)) 0 = 26 ∧ imm16 (BitVec.ofNat 32 (movN opc h v)) = BitVec.ofNat 32 v ∧
    hw (BitVec.ofNat 32 (movN opc h v)) = BitVec.ofNat 32 h := by
  rw [show (0xff800000#32) = BitVec.allOnes 32 <<< 23 by decide, ← BitVec.shiftLeft_ushiftRight, r5, imm16, hw]
  refine ⟨BitVec.eq_of_toNat_eq ?_, ?_, BitVec.eq_of_toNat_eq ?_, BitVec.eq_of_toNat_eq ?_⟩
  all_goals
    simp only [and_mask _ 5 0x1f#32 rfl, and_mask _ 16 0xffff#32 rfl, and_mask _ 2 0x3#32 rfl, BitVec.toNat_shiftLeft,
      BitVec.toNat_ushiftRight, BitVec.toNat_ofNat, Nat.shiftLeft_eq, Nat.shiftRight_eq_div_pow, movN]
    omega

theorem table_kinds_ok (r : Row) (hr : r ∈ table) (k : Nat) (hk : k ∈ r.args) : k ∉ Gen.A64Args.badKinds := by
  have h := forall_table (fun r => r.args.all (fun k => !Gen.A64Args.badKinds.contains k)) (by decide +kernel) r hr
  simpa using List.all_eq_true.mp h k hk

theorem genEnv_argOk_indep (fb1 fb2 : Env) (i k : Nat) (x : BitVec 32) (hk : k ∉ Gen.A64Args.badKinds) :
    (genEnv fb1).argOk i k x = (genEnv fb2).argOk i k x := by
  rcases Gen.A64Args.decodeArgOut_ok k x hk with h | h <;> simp [genEnv, h]

theorem decodeArgs_genEnv_indep (fb1 fb2 : Env) (i : Nat) (x : BitVec 32) :
    ∀ ks : List Nat, (∀ k ∈ ks, k ∉ Gen.A64Args.badKinds) → decodeArgs (genEnv fb1) i ks x = decodeArgs (genEnv fb2) i ks x := by
  intro ks
  induction ks with
  | nil => intro _; rfl
  | cons k ks ih =>
    intro h
    unfold decodeArgs
    by_cases hk0 : k = 0
    · simp [hk0]
    · have h1 := genEnv_argOk_indep fb1 fb2 i k x (h k List.mem_cons_self)
      have h2 := ih (fun k' hk' => h k' (List.mem_cons_of_mem _ hk'))
      simp only [hk0, if_false, decodeArg, h1, h2]

theorem decodeFrom_genEnv_indep (fb1 fb2 : Env) (x : BitVec 32)
    (hc : ∀ i c x, genCond c = none → fb1.condOk i c x = fb2.condOk i c x) :
    ∀ rows i, (∀ r ∈ rows, ∀ k ∈ r.args, k ∉ Gen.A64Args.badKinds) →
      decodeFrom (genEnv fb1) rows i x = decodeFrom (genEnv fb2) rows i x := by
  intro rows
  induction rows with
  | nil => intro i _; rfl
  | cons r rs ih =>
    intro i h
    have hargs := decodeArgs_genEnv_indep fb1 fb2 i x r.args (h r List.mem_cons_self)
    have hrest := ih (i + 1) (fun r' hr' => h r' (List.mem_cons_of_mem _ hr'))
    have hcond : condVal (genEnv fb1) i r.condId x = condVal (genEnv fb2) i r.condId x := by
      unfold condVal
      split
      · rfl
      · simp only [genEnv]
        cases hg : genCond r.condId with
        | some f => rfl
        | none => exact hc i r.condId x hg
    unfold decodeFrom
    rw [hcond, hargs, hrest]

end C17L
