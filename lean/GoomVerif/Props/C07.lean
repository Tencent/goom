import GoomVerif.Model.Iface
import GoomVerif.Lemmas.C07L
/-! C07 — interface-variable mocks dispatch each method to its own replacement and restore.

All theorems are about `Model/Iface.lean` in the repaired configuration `Cfg.fixed` (F11: mocker cache keyed by variable,
F9: every callback retained in `PContext`); the counter-examples for the unrepaired configuration are in
`Findings/C07F.lean`.  "Reachable" = result of `run` on an arbitrary list of builder-API operations (`mock.Interface(&v).Method(..)..` with fitting
or rejected callbacks, `mock.Reset()`, dropping the builder) from an initial state in which every variable holds nil or a
real implementation.  Operations through a *kept* `CachedInterfaceMocker` handle (`Op.mockH`) are modelled and run
differentially; about them only the function-level theorems `canceled_context_fresh_itab` and `within_bound` are proved. -/
namespace C07
open Iface C07L

def Reachable (s : St) : Prop :=
  ∃ types vtyp vars0 sigs ops, (∀ v, ∃ x, vars0 v = Words.val x) ∧ (∀ op ∈ ops, op.builderApi = true)
    ∧ run Cfg.fixed (St.init types vtyp vars0 sigs) ops = some s

theorem reachable_inv {s : St} (h : Reachable s) : Inv Cfg.fixed s := by
  obtain ⟨types, vtyp, vars0, sigs, ops, hv, hapi, hr⟩ := h
  exact inv_run Cfg.fixed ops _ s (inv_init Cfg.fixed types vtyp vars0 sigs hv) hapi hr

/-- **slot = index in the type's method set — full statement** (FALSE for the code as it is, finding F27: an
    embedded interface of another package can bring an unexported method with the same *name* as an own method, and
    `methodIndexOf` compares names only, see `Findings/C07F.lean`). -/
def SlotIsTypeIndex : Prop :=
  ∀ (ms : List String) (m : String), m ∈ ms → ms[methodIndexOf ms m]? = some m

/-- **slot = index in the type's method set** for every method whose name is not shadowed (`NoShadow`: no other member of
    the method set has the same name — always true unless a foreign unexported method of the same name is embedded):
    `typ.Method(methodIndexOf typ m)` is `m`, it is the first such position, and it equals `List.idxOf` — for every method
    set, exported or not, any position. -/
theorem slot_is_type_index_partial (ms : List String) (m : String) (h : m ∈ ms) (hns : NoShadow ms m) :
    ms[methodIndexOf ms m]? = some m ∧ (∀ j < methodIndexOf ms m, ms[j]? ≠ some m) ∧ methodIndexOf ms m = ms.idxOf m := by
  have hlt : ms.idxOf m < ms.length := List.idxOf_lt_length_of_mem h
  rw [methodIndexOf_eq_idxOf ms m h hns]
  refine ⟨?_, fun j hj e => ?_, rfl⟩
  · rw [List.getElem?_eq_getElem hlt, List.getElem_idxOf hlt]
  · have hj' : j < ms.length := Nat.lt_trans hj hlt
    have := List.not_of_lt_findIdx (p := (· == m)) hj
    rw [List.getElem?_eq_getElem hj', Option.some.injEq] at e
    rw [e, beq_self_eq_true] at this
    cases this

/-- `NoShadow` holds for every method of a set whose names are pairwise different (the usual case) -/
theorem noShadow_of_unique_names (ms : List String) (m : String) (hm : m ∈ ms)
    (huniq : ∀ x ∈ ms, ∀ y ∈ ms, baseName x = baseName y → x = y) (hb : baseName m = m) : NoShadow ms m := by
  intro x hx
  constructor
  · intro e
    exact (huniq x hx m hm (by rw [hb, ← e])).symm
  · intro e; rw [← e, hb]

example : methodIndexOf (sortMeths ["b", "Zed", "Abc", "_x"]) "_x" = 2 := by decide

/-- **a mocked method reaches its own (latest) replacement, with the caller's argument; the variable is non-nil.**
    In every reachable state, after `b.Interface(&v).Method(m).Apply(cb)` / `.As(cb).Return(r)` / `.As(cb).When(a).Return(r)`
    succeeded, the variable holds a fake interface and calling `m` through it reaches exactly the new callback `k`
    (`Res.cb k` = the user's closure runs on the caller's arguments; `Res.ret k` = the stubbed value; a `When(a)` stub answers
    only for argument `a`). -/
theorem dispatch_mocked (s s' : St) (hr : Reachable s) (b v : Nat) (m : String) (kind : Kind)
    (csig : Nat) (hns : NoShadow (s.types (s.vtyp v)) m)
    (hs : step Cfg.fixed s (.mock b v m kind csig) = some (s', .ok)) (x : Nat) :
    (∃ f c, s'.vars v = .fake f c) ∧
    call s' v m x = (match kind with
      | .ap => .cb s.ncb
      | .rt => .ret s.ncb
      | .wn a => if x = a then .ret s.ncb else .panic "nomatch") := by
  obtain ⟨f, c, g, i, h1, h2, h3, h5, _, h7, h8⟩ :=
    mock_dispatch (reachable_inv hr) rfl hns hs
  refine ⟨⟨f, c, h1⟩, ?_⟩
  simp only [call, h1, h2, h3, h5, upd_same, h7]
  cases kind with
  | ap => rfl
  | rt => simp [cbOf, h8, whenOf, invokeWhen]
  | wn a =>
    simp only [cbOf, h8, whenOf, invokeWhen, List.find?]
    by_cases e : x = a
    · subst e; simp
    · have : ¬ (a = x) := fun h => e h.symm
      simp [e, this]

/-- the hypotheses are satisfiable: a successful `When` mock of an unexported method in a three-method interface -/
example : (step Cfg.fixed (St.init (fun _ => sortMeths ["b", "Zed", "Abc"]) (fun _ => 0) (fun _ => .val 0) (fun _ => [0, 0, 0]))
    (.mock 0 1 "b" (.wn 9) 0)).map (·.2) = some .ok := by decide

theorem idxOf_inj (ms : List String) (a b : String) (ha : a ∈ ms) (h : ms.idxOf a = ms.idxOf b) : a = b := by
  have ha' : ms.idxOf a < ms.length := List.idxOf_lt_length_of_mem ha
  have hb : ms.idxOf b < ms.length := h ▸ ha'
  calc a = ms[ms.idxOf a] := (List.getElem_idxOf ha').symm
    _ = ms[ms.idxOf b] := by simp only [h]
    _ = b := List.getElem_idxOf hb

/-- **every other method keeps its slot; an unmocked method panics "method not implements".**  After a successful mock of
    `m`, for every other method `m'` of the interface (any order of mocking, any subset): if this was the first mock in the
    mocker's context the itab is fresh and calling `m'` panics with the not-implemented message; otherwise the itab is the
    one the context already had and `m'` keeps exactly the slot it had — so, by induction over the history, each method's slot
    is its own latest replacement or `notImplement`. -/
theorem dispatch_frame (s s' : St) (hr : Reachable s) (b v : Nat) (m m' : String) (kind : Kind) (csig : Nat)
    (hns : NoShadow (s.types (s.vtyp v)) m) (hs : step Cfg.fixed s (.mock b v m kind csig) = some (s', .ok)) (hm' : m' ∈ s.types (s.vtyp v)) (hne : m' ≠ m) (x : Nat) :
    ∃ f c, s'.vars v = .fake f c ∧
      ((f = s.nfake ∧ call s' v m' x = .panic "notimpl") ∨
       (f < s.nfake ∧ (s'.fakes f).fn ((s.types (s.vtyp v)).idxOf m') = (s.fakes f).fn ((s.types (s.vtyp v)).idxOf m'))) := by
  obtain ⟨f, c, g, i, h1, h2, h3, h5, h6, _⟩ :=
    mock_dispatch (reachable_inv hr) rfl hns hs
  have hidx : (s.types (s.vtyp v)).idxOf m' ≠ (s.types (s.vtyp v)).idxOf m :=
    fun h => hne (idxOf_inj _ _ _ hm' h)
  refine ⟨f, c, h1, ?_⟩
  rcases h6 with ⟨e1, e2⟩ | ⟨e1, e2⟩
  · left
    refine ⟨e1, ?_⟩
    simp only [call, h1, h2, h3, h5, upd_other _ _ _ _ hidx, e2]
  · right
    exact ⟨e1, by rw [h5, upd_other _ _ _ _ hidx, e2]⟩

/-- (definitional: one arm of `call`) **unmocked ⇒ panics**: a slot that still holds `notImplement` makes the call panic with the not-implemented class. -/
theorem unmocked_panics (s : St) (v f c : Nat) (m : String) (x : Nat) (hv : s.vars v = .fake f c)
    (hslot : (s.fakes f).fn ((s.types (s.vtyp v)).idxOf m) = .notImpl) : call s v m x = .panic "notimpl" := by
  simp only [call, hv, hslot]

/-- **different variables are mocked independently.**  In every reachable state, whatever `b.Interface(&v).Method(m)…`
    does (success or panic), every other variable `w` — of the same interface type or not — keeps its two words and the
    function table it dispatches through. -/
theorem vars_independent (s s' : St) (hr : Reachable s) (b v : Nat) (m : String) (kind : Kind) (csig : Nat) (st : Status)
    (hs : step Cfg.fixed s (.mock b v m kind csig) = some (s', st)) (w : Nat) (hw : w ≠ v) :
    s'.vars w = s.vars w ∧ ∀ f c, s.vars w = .fake f c → s'.fakes f = s.fakes f :=
  mock_other_vars (reachable_inv hr) rfl hs w hw

/-- **a rejected mock changes nothing a caller can see.**  If the callback's signature does not fit the method
    (`proxy.Interface` returns an error), the call panics and no variable, fake interface or context (hence no backup,
    no canceled flag) changes — for the mocked variable too. -/
theorem rejected_mock_changes_nothing (s s' : St) (hr : Reachable s) (b v : Nat) (m : String) (kind : Kind) (csig : Nat)
    (st : Status) (hrej : sigFits s (s.vtyp v) m csig = false)
    (hs : step Cfg.fixed s (.mock b v m kind csig) = some (s', st)) :
    (∃ c, st = .panic c) ∧ s'.vars = s.vars ∧ s'.fakes = s.fakes := by
  cases st with
  | ok =>
    obtain ⟨j, _, _, s2, _, _, _, _, _, _, _, hvar, _, hfit, _⟩ :=
      mockStep_ok (reachable_inv hr) hs
    rw [(hvar rfl).2, hrej] at hfit
    cases hfit
  | panic c =>
    have F := mockStep_panic_frame hs
    exact ⟨⟨c, rfl⟩, F.vars, F.fakes⟩

example : (step Cfg.fixed (St.init (fun _ => sortMeths ["b", "Zed"]) (fun _ => 0) (fun _ => .val 0) (fun _ => [0, 0, 0]))
    (.mock 0 1 "b" .ap 7)).map (·.2) = some (.panic "applyerr") := by decide

/-- satisfiable and non-trivial: a variable holding implementation 5, two methods mocked (Apply and Return), Reset -/
example : (run Cfg.fixed (St.init (fun _ => sortMeths ["B", "A"]) (fun _ => 0) (fun _ => .val 5) (fun _ => [0, 0, 0]))
    [.mock 0 0 "A" .ap 0, .mock 0 0 "B" .rt 0, .reset 0]).map (fun s => (s.vars 0, (s.ctxs 0).canceled)) = some (.val 5, true) := by decide

/-- (function-level restatement of `cancelMM`) **Cancel through one method's handle restores the whole variable — once**:
    `Method(m).Cancel()` on a method mocker that was applied (has a guard) and whose context has not put the variable back
    yet writes the saved words back and cancels the *shared* context (so the next `Interface(&v)` starts a fresh mocker and
    context, for every method); on a mocker that was never applied, or whose context already restored the variable
    (`cancel_after_restore_keeps_value`), it changes no variable at all. -/
theorem cancel_one_method_restores_variable (s s' : St) (i v : Nat) (w : Words)
    (hb : (s.ctxs (s.mms i).ctx).backup = some (v, w)) (hs : cancelMM s i = some s') :
    ((s.mms i).hasGuard = true → (s.ctxs (s.mms i).ctx).restored = false → s'.vars = upd s.vars v w)
    ∧ ((s.mms i).hasGuard = true → (s'.ctxs (s.mms i).ctx).canceled = true)
    ∧ ((s.mms i).hasGuard = false → s'.vars = s.vars) := by
  obtain ⟨_, _, _, _, _, _, h4, h5, h6⟩ := cancelMM_gen hs
  refine ⟨fun hg hr => ?_, h5, fun hg => h4 (Or.inl hg)⟩
  obtain ⟨v', w', e, hv⟩ := h6 hg hr
  rw [hb] at e; cases e; exact hv

/-- **a Cancel of an already restored context leaves every variable alone**: once a
    context has put its variable back (`restored`), cancelling any of its method mockers again — a second `Reset`, a
    `Method(m).Cancel()` after a `Reset` — changes no variable, whatever the test assigned in the meantime. -/
theorem cancel_after_restore_keeps_value (s s' : St) (i : Nat) (hr : (s.ctxs (s.mms i).ctx).restored = true)
    (hs : cancelMM s i = some s') : s'.vars = s.vars := by
  obtain ⟨_, _, _, _, _, _, hvars, _, _⟩ := cancelMM_gen hs
  exact hvars (Or.inr hr)

example : (run Cfg.fixed (St.init (fun _ => sortMeths ["B", "A"]) (fun _ => 0) (fun _ => .val 5) (fun _ => [0, 0, 0]))
    [.mock 0 0 "A" .ap 0, .mock 0 0 "B" .rt 0, .cancelM 0 0 "A", .mock 0 0 "B" .rt 0]).map
      (fun s => (callSlot s 0 "A", callSlot s 0 "B", (s.ctxs 0).canceled)) = some (some .notImpl, some (.stub 2), true) := by decide

/-- (function-level restatement of `proxyInterface`; the state-level statement is `first_mock_backs_up_current_value`)
    **the saved words are the value the variable held before the first mock**: `proxy.Interface` (the only writer of the
    backup) stores the variable's current words when the context has no backup yet and never overwrites an existing one
    (`BackUpTo` only the first time). -/
theorem backup_only_first_time (cfg : Cfg) (s s' : St) (v t c : Nat) (m : String) (k : Nat) (cb : Cb)
    (hs : proxyInterface cfg s v t c m k cb = some s') :
    (s'.ctxs c).backup = (match (s.ctxs c).backup with | none => some (v, s.vars v) | some bk => some bk) := by
  obtain ⟨f, g, n, cache, rfl, _⟩ := proxyInterface_cases hs
  dsimp only [proxyOut]; rw [upd_same]; dsimp only [proxyCtx]
  cases (s.ctxs c).backup <;> rfl

/-- (function-level restatement of `proxyInterface`) **a canceled context never reuses its old itab** (kept handles after `Reset`): when `proxy.Interface` runs on a context
    that was canceled, the variable gets a *fresh* fake interface whose table has the new callback at the method's index
    and `notImplement` in every other slot — no method keeps a replacement from before the `Reset`. -/
theorem canceled_context_fresh_itab (cfg : Cfg) (s s' : St) (v t c : Nat) (m : String) (k : Nat) (cb : Cb)
    (hc : (s.ctxs c).canceled = true) (hs : proxyInterface cfg s v t c m k cb = some s') :
    s'.vars v = .fake s.nfake c ∧
    (s'.fakes s.nfake).fn = upd (fun _ => Slot.notImpl) (methodIndexOf (s.types t) m) (.stub k) := by
  obtain ⟨f, g, n, cache, rfl, ⟨_, h, _⟩ | ⟨_, rfl, rfl, _⟩⟩ := proxyInterface_cases hs
  · rw [hc] at h; cases h
  · dsimp only [proxyOut]; rw [upd_same, upd_same]; exact ⟨rfl, rfl⟩

/-- **the table bound** (`hack.MaxMethod`): a method of an interface with at most `maxMethod` methods has its index inside
    the fabricated table, so `proxy.Interface` never leaves the modelled fragment; at the bound (index ≥ `maxMethod`, only
    possible for wider interfaces) the model has no successor state (`none`; the Go code panics with index out of range). -/
theorem within_bound (cfg : Cfg) (s : St) (v t c : Nat) (m : String) (k : Nat) (cb : Cb) :
    (m ∈ s.types t → NoShadow (s.types t) m → (s.types t).length ≤ maxMethod → (proxyInterface cfg s v t c m k cb).isSome = true)
    ∧ (maxMethod ≤ methodIndexOf (s.types t) m → proxyInterface cfg s v t c m k cb = none) := by
  constructor
  · intro hm hns hl
    have h1 := (slot_is_type_index_partial _ _ hm hns).2.2
    have h2 : (s.types t).idxOf m < (s.types t).length := List.idxOf_lt_length_of_mem hm
    simp only [proxyInterface]
    split
    · omega
    · split <;> rfl
  · intro h
    simp only [proxyInterface]
    split
    · rfl
    · omega

example : maxMethod = 999 := rfl

/-- **retained while held**: in every reachable state, for every variable that holds a fake interface, every object that
    the call path reaches only through GC-invisible references — the fabricated itab (the itab word of an interface is
    not scanned), and the closure / MakeFunc impl whose address is an immediate in each slot's stub — is reachable from the
    variable through pointers the collector follows (variable → IContext → PContext → ifaceCache / retained). -/
theorem retained_while_held (s : St) (hr : Reachable s) (v : Nat) : ∀ n ∈ needed s v, Reach s (.var v) n :=
  needed_reachable (reachable_inv hr) rfl v

/-- satisfiable: a reachable state with three live mocks, builder dropped, everything needed is reachable -/
example : (run Cfg.fixed (St.init (fun _ => sortMeths ["B", "A"]) (fun _ => 0) (fun _ => .val 0) (fun _ => [0, 0, 0]))
    [.mock 0 0 "A" .rt 0, .mock 0 0 "B" .rt 0, .mock 0 0 "A" .ap 0, .drop 0]).map
      (fun s => ((needed s 0).length, (needed s 0).all (fun n => (bfs s 64 [.var 0] []).contains n))) = some (3, true) := by decide

theorem reachable_inv2 {s : St} (h : Reachable s) : Inv2 Cfg.fixed s := by
  obtain ⟨types, vtyp, vars0, sigs, ops, hv, hapi, hr⟩ := h
  exact inv2_run Cfg.fixed ops _ s (inv_init Cfg.fixed types vtyp vars0 sigs hv) (inv2_init Cfg.fixed types vtyp vars0 sigs) hapi hr

/-- variable `v` is mocked through builder `b`, with saved words `w`: one of the builder's interface method mockers has a
    guard (a mock was applied through it), its context backed up `v` holding `w` and has not put `v` back yet -/
def MockedThrough (s : St) (b v : Nat) (w : Words) : Prop := Binds s (mmsOf s b) v w

/-- the saved words of a variable are unique within a builder (whatever number of variables, of equal or different
    interface types, the builder mocks): a builder has one cached mocker, hence one context, per variable -/
theorem saved_words_unique (s : St) (hr : Reachable s) (b v : Nat) (w w' : Words)
    (h1 : MockedThrough s b v w) (h2 : MockedThrough s b v w') : w = w' := by
  have hI := reachable_inv hr
  have hJ := reachable_inv2 hr
  have key : ∀ i w, i ∈ mmsOf s b → (s.ctxs (s.mms i).ctx).backup = some (v, w) →
      ∃ p ∈ (s.blds b).mockers, (s.mms i).ctx = (s.cms p.2).ctx ∧ p.1 = (s.vtyp v, v + 1) := by
    intro i w hi hb
    simp only [mmsOf, List.mem_flatMap, List.mem_map] at hi
    obtain ⟨p, hp, q, hq, e⟩ := hi
    subst e
    have hj := hJ.f b p hp
    have hc := (hJ.r p.2 hj q hq).2
    refine ⟨p, hp, hc, ?_⟩
    rw [hc] at hb
    have hv := hI.m p.2 hj v w hb
    rw [hJ.k rfl b p hp, ← hv]
  obtain ⟨i, hi, _, _, hb⟩ := h1
  obtain ⟨i', hi', _, _, hb'⟩ := h2
  obtain ⟨p, hp, c1, k1⟩ := key i w hi hb
  obtain ⟨p', hp', c2, k2⟩ := key i' w' hi' hb'
  have e := hJ.n b p p' hp hp' (by rw [k1, k2])
  subst e
  rw [c1] at hb
  rw [c2, hb] at hb'
  cases hb'
  rfl

/-- **`Builder.Reset` never panics and restores every variable** (full strength: any reachable state — rejected mocks,
    per-method Cancel, any number of variables of equal and different interface types in the builder, other builders —
    and any iteration order `l` of the builder's mocker map): the cancel loop completes; afterwards every variable mocked
    through `b` holds its saved words, the context of every applied mock of `b` is canceled, and every variable not
    mocked through `b` (in particular every variable of another builder) is unchanged. -/
theorem reset_any_order (s : St) (hr : Reachable s) (b : Nat) (l : List Nat) (hl : ∀ i, i ∈ l ↔ i ∈ mmsOf s b) :
    ∃ s', cancelMMs s l = some s'
      ∧ (∀ v w, MockedThrough s b v w → s'.vars v = w)
      ∧ (∀ i ∈ mmsOf s b, (s.mms i).hasGuard = true →
            (s'.ctxs (s.mms i).ctx).canceled = true ∧ (s'.ctxs (s.mms i).ctx).restored = true)
      ∧ (∀ u, (¬ ∃ w, MockedThrough s b u w) → s'.vars u = s.vars u) := by
  have hJ := reachable_inv2 hr
  have hb : ∀ u w, Binds s l u w ↔ MockedThrough s b u w := by
    intro u w
    constructor
    · rintro ⟨i, hi, h⟩; exact ⟨i, (hl i).mp hi, h⟩
    · rintro ⟨i, hi, h⟩; exact ⟨i, (hl i).mpr hi, h⟩
  obtain ⟨s', h0, _, _, _, _, _, h4, h5, h6⟩ := cancelMMs_gen l s (fun i _ hg => (hJ.g i hg).2)
  refine ⟨s', h0, ?_, ?_, ?_⟩
  · intro v w hm
    exact h5 v w ((hb v w).mpr hm) (fun w' hw' => saved_words_unique s hr b v w' w ((hb v w').mp hw') hm)
  · intro i hi hg
    exact h6 i ((hl i).mpr hi) hg
  · intro u hu
    exact h4 u (fun ⟨w, hw⟩ => hu ⟨w, (hb u w).mp hw⟩)

/-- **Reset does not panic** in any reachable state (a guard never exists without a backup — what a rejected `Apply`
    must not break). -/
theorem reset_total (s : St) (hr : Reachable s) (b : Nat) : ∃ s', step Cfg.fixed s (.reset b) = some (s', .ok) := by
  obtain ⟨s', h0, _⟩ := reset_any_order s hr b (mmsOf s b) (fun _ => Iff.rfl)
  exact ⟨s', by simp [step, resetStep, h0]⟩

/-- **Reset writes back what each of the builder's contexts saved** (`reset_any_order` for the model's own iteration order): every
    variable mocked through `b` holds the words its context saved at its first mock — the value it held then, which is another builder's fake
    interface if the variable was already mocked through that one (`Findings/C07F.lean`, F28). -/
theorem reset_restores_all (s s' : St) (hr : Reachable s) (b : Nat) (hs : step Cfg.fixed s (.reset b) = some (s', .ok)) :
    (∀ v w, MockedThrough s b v w → s'.vars v = w)
    ∧ (∀ i ∈ mmsOf s b, (s.mms i).hasGuard = true →
          (s'.ctxs (s.mms i).ctx).canceled = true ∧ (s'.ctxs (s.mms i).ctx).restored = true)
    ∧ (∀ u, (¬ ∃ w, MockedThrough s b u w) → s'.vars u = s.vars u) := by
  obtain ⟨s'', h0, h1⟩ := reset_any_order s hr b (mmsOf s b) (fun _ => Iff.rfl)
  simp only [step, resetStep, h0, Option.map_some, Option.some.injEq, Prod.mk.injEq, and_true] at hs
  subst hs
  exact h1

/-- **the map iteration order of `Builder.Reset` is irrelevant** for the variables -/
theorem reset_order_irrelevant (s s1 s2 : St) (hr : Reachable s) (b : Nat) (l1 l2 : List Nat)
    (h1 : ∀ i, i ∈ l1 ↔ i ∈ mmsOf s b) (h2 : ∀ i, i ∈ l2 ↔ i ∈ mmsOf s b)
    (e1 : cancelMMs s l1 = some s1) (e2 : cancelMMs s l2 = some s2) : s1.vars = s2.vars := by
  obtain ⟨t1, a0, a1, _, a3⟩ := reset_any_order s hr b l1 h1
  obtain ⟨t2, b0, b1, _, b3⟩ := reset_any_order s hr b l2 h2
  rw [e1] at a0; cases a0
  rw [e2] at b0; cases b0
  funext u
  by_cases h : ∃ w, MockedThrough s b u w
  · obtain ⟨w, hw⟩ := h
    rw [a1 u w hw, b1 u w hw]
  · rw [a3 u h, b3 u h]

/-- two variables of the same interface type (one nil, one holding implementation 5) and one of another type, mocked in one
    builder, a third variable in another builder; a rejected mock and a per-method Cancel in between; `Reset` of builder 0
    restores variables 0 and 1 and leaves builder 1's variable 2 mocked -/
example : (run Cfg.fixed (St.init (fun _ => sortMeths ["B", "A"]) (fun v => if v = 2 then 1 else 0)
      (fun v => if v = 1 then .val 5 else .val 0) (fun _ => [0, 0, 0]))
    [.mock 0 0 "A" .ap 0, .mock 0 1 "B" .rt 0, .mock 1 2 "A" .ap 0, .mock 0 1 "A" .ap 7,
     .mock 0 0 "B" .ap 0, .cancelM 0 0 "A", .mock 0 0 "B" .rt 0, .reset 0]).map
      (fun s => (s.vars 0, s.vars 1, callSlot s 2 "A")) = some (.val 0, .val 5, some (.stub 2)) := by decide

theorem interfaceOf_reuse (cfg : Cfg) (s : St) (b v j : Nat) (hl : lookup (bkey cfg s v) (s.blds b).mockers = some j)
    (hlive : (s.ctxs (s.cms j).ctx).canceled = false) : interfaceOf cfg s b v = (j, s) := by
  simp [interfaceOf, hl, hlive]

/-- **while the context is live the itab is reused** (closes the gap left by the disjunction of `dispatch_frame`): in a
    reachable state in which variable `v` holds the fake interface `f` of context `c`, `c` is not cancelled and it is the
    context of the builder's cached mocker for `v`, a further successful mock of `m` through that builder keeps `v`
    pointing at the SAME fake interface and changes exactly one slot — every other method keeps its slot, hence (by
    induction over a history without Reset/Cancel) every mocked method keeps its own latest replacement. -/
theorem dispatch_frame_live (s s' : St) (hr : Reachable s) (b v : Nat) (m : String) (kind : Kind) (csig : Nat)
    (hns : NoShadow (s.types (s.vtyp v)) m) (hs : step Cfg.fixed s (.mock b v m kind csig) = some (s', .ok))
    (f c j : Nat) (hv : s.vars v = .fake f c) (hl : lookup (bkey Cfg.fixed s v) (s.blds b).mockers = some j)
    (hc : (s.cms j).ctx = c) (hlive : (s.ctxs c).canceled = false) :
    s'.vars v = .fake f c ∧ (s'.fakes f).fn = upd (s.fakes f).fn ((s.types (s.vtyp v)).idxOf m) (.stub s.ncb) := by
  have hI := reachable_inv hr
  obtain ⟨j', s1, i, s2, s3, hr1, hr2, _, F, _, _, hvar, hmem, _, hp, rfl⟩ :=
    mockStep_ok hI hs
  -- `Interface` returns the cached mocker `j` and `Method` keeps its context
  rw [interfaceOf_reuse Cfg.fixed { s with ncb := s.ncb + 1 } b v j hl (by rw [hc]; exact hlive)] at hr1
  cases hr1
  have same := methodOf_same { s with ncb := s.ncb + 1 } j m
  rw [hr2] at same
  have hctx : (s2.cms j).ctx = c := (same.ctx j).trans hc
  obtain ⟨hvj, htyp⟩ := hvar rfl
  have hmem' : m ∈ s.types (s.vtyp v) := hasMethod_mem _ _ (htyp ▸ hmem) hns
  -- so `proxy.Interface` finds the fake iface `v` already holds in the context's cache
  have hlk : lookup (s2.cms j).typ (s2.ctxs (s2.cms j).ctx).cache = some f := by
    rw [htyp, hctx, same.ctxs]; exact (hI.a v f c hv).2
  obtain ⟨f', g, n, cache, rfl, ⟨h1, _, rfl, _⟩ | ⟨h1, _⟩⟩ := proxyInterface_cases hp
  · cases h1.symm.trans hlk
    dsimp only [proxyOut]
    rw [hvj, hctx, upd_same, upd_same, htyp, F.types, F.fakes, methodIndexOf_eq_idxOf _ _ hmem' hns]
    exact ⟨rfl, rfl⟩
  · rcases h1 with h1 | h1
    · rw [hlk] at h1; cases h1
    · rw [hctx, same.ctxs] at h1; rw [hlive] at h1; cases h1

theorem interfaceOf_lookup (cfg : Cfg) (s : St) (b v : Nat) :
    lookup (bkey cfg s v) ((interfaceOf cfg s b v).2.blds b).mockers = some (interfaceOf cfg s b v).1 := by
  rcases interfaceOf_cases cfg s b v with ⟨j, hj, _, e⟩ | e <;> rw [e]
  · exact hj
  · simp [freshCM, lookup_insertKV]

theorem proxyInterface_frame (cfg : Cfg) (s s' : St) (v t c : Nat) (m : String) (k : Nat) (cb : Cb)
    (hs : proxyInterface cfg s v t c m k cb = some s') :
    s'.blds = s.blds ∧ s'.cms = s.cms ∧ s'.ncb = s.ncb ∧ (s'.ctxs c).canceled = (s.ctxs c).canceled := by
  obtain ⟨f, g, n, cache, rfl, _⟩ := proxyInterface_cases hs
  exact ⟨rfl, rfl, rfl, by dsimp only [proxyOut]; rw [upd_same]; rfl⟩

theorem methodOf_frame (s : St) (j : Nat) (m : String) :
    (methodOf s j m).2.blds = s.blds ∧ (methodOf s j m).2.ncb = s.ncb ∧ (∀ j', ((methodOf s j m).2.cms j').ctx = (s.cms j').ctx) := by
  have same := methodOf_same s j m
  exact ⟨same.blds, same.ncb, same.ctx⟩

theorem mockOn_frame (cfg : Cfg) (s1 s' : St) (j : Nat) (m : String) (kind : Kind) (fits : Bool) (k : Nat)
    (hs : mockOn cfg s1 j m kind fits k = some (s', .ok)) :
    s'.blds = s1.blds ∧ s'.ncb = s1.ncb ∧ (∀ j', (s'.cms j').ctx = (s1.cms j').ctx) := by
  obtain ⟨i, s2, hr2, ⟨_, c, hc⟩ | ⟨_, _, _, s3, hp, rfl⟩⟩ := mockOn_cases hs
  · cases hc
  obtain ⟨_, _, _, _, rfl, _⟩ := proxyInterface_cases hp
  have same := methodOf_same s1 j m
  rw [hr2] at same
  exact ⟨same.blds, same.ncb, same.ctx⟩

theorem proxyInterface_rearms (cfg : Cfg) (s s' : St) (v t c : Nat) (m : String) (k : Nat) (cb : Cb)
    (hs : proxyInterface cfg s v t c m k cb = some s') : (s'.ctxs c).restored = false := by
  obtain ⟨f, g, n, cache, rfl, _⟩ := proxyInterface_cases hs
  dsimp only [proxyOut]; rw [upd_same]; rfl

/-- after a successful mock the builder's cached mocker for `v` exists, its context is live and `v` holds its fake -/
theorem mock_establishes_live (s s' : St) (hr : Reachable s) (b v : Nat) (m : String) (kind : Kind) (csig : Nat)
    (hs : step Cfg.fixed s (.mock b v m kind csig) = some (s', .ok)) :
    ∃ f c j, s'.vars v = .fake f c ∧ lookup (bkey Cfg.fixed s' v) (s'.blds b).mockers = some j ∧ (s'.cms j).ctx = c
      ∧ (s'.ctxs c).canceled = false ∧ s'.ncb = s.ncb + 1 ∧ s'.types = s.types ∧ s'.vtyp = s.vtyp := by
  obtain ⟨j, s1, i, s2, s3, hr1, hr2, _, F, _, hcn, hvar, _, _, hp, rfl⟩ :=
    mockStep_ok (reachable_inv hr) hs
  have f1 := interfaceOf_facts b v (inv_ncb (s.ncb + 1) (reachable_inv hr))
  have hlk := interfaceOf_lookup Cfg.fixed { s with ncb := s.ncb + 1 } b v
  have same := methodOf_same s1 j m
  rw [hr1] at f1 hlk
  rw [hr2] at same
  dsimp only at f1 same hlk
  obtain ⟨_, _, _, hncb⟩ := f1
  obtain ⟨f, g, n, cache, rfl, _⟩ := proxyInterface_cases hp
  refine ⟨f, (s2.cms j).ctx, j, ?_, ?_, rfl, ?_, ?_, F.types, F.vtyp⟩ <;> dsimp only [proxyOut]
  · rw [(hvar rfl).1]; exact upd_same _ _ _
  · simp only [bkey, F.vtyp, same.blds]; exact hlk
  · rw [upd_same]; exact hcn
  · rw [same.ncb]; exact hncb

theorem run_append (cfg : Cfg) (l1 l2 : List Op) : ∀ s, run cfg s (l1 ++ l2) = (run cfg s l1).bind fun s1 => run cfg s1 l2 := by
  induction l1 with
  | nil => intro s; simp [run]
  | cons op r ih =>
    intro s
    simp only [List.cons_append, run]
    cases step cfg s op with
    | none => simp
    | some p => simp [ih]

/-- reachable states are closed under builder-API steps -/
theorem reachable_step {s s1 : St} {op : Op} {st : Status} (hr : Reachable s) (hapi : op.builderApi = true)
    (hs : step Cfg.fixed s op = some (s1, st)) : Reachable s1 := by
  obtain ⟨types, vtyp, vars0, sigs, ops, hv, ha, hrun⟩ := hr
  refine ⟨types, vtyp, vars0, sigs, ops ++ [op], hv, ?_, ?_⟩
  · intro o ho
    rcases List.mem_append.mp ho with h | h
    · exact ha o h
    · simp at h; subst h; exact hapi
  · rw [run_append, hrun]; simp [run, hs]

def runOk (cfg : Cfg) : St → List Op → Option St
  | s, [] => some s
  | s, op :: r => match step cfg s op with
    | some (s1, .ok) => runOk cfg s1 r
    | _ => none

/-- the slot table the property prescribes after mocking the methods `l` (in this order, callback ids counted from `k0`)
    on top of table `g`: each method's slot is its own LATEST replacement, every other slot is untouched -/
def specSlots (ms : List String) : List (String × Kind × Nat) → Nat → (Nat → Slot) → (Nat → Slot)
  | [], _, g => g
  | p :: r, k0, g => specSlots ms r (k0 + 1) (upd g (ms.idxOf p.1) (.stub k0))

/-- **trace-level dispatch theorem — any order, any subset, any number of re-mocks.**  From a reachable state in which `v`
    holds the fake interface of the live context of builder `b`'s mocker, after ANY sequence of successful mocks of `v`
    through `b` (Apply / Return / When, methods in any order, repeated or not) the variable still holds the same fake
    interface and its function table is exactly the table the property prescribes: every mocked method dispatches to its own
    latest replacement, every other slot is what it was (`notImplement` if the method was never mocked in this context). -/
theorem mock_sequence_slots (b v : Nat) (l : List (String × Kind × Nat)) : ∀ (s s' : St), Reachable s →
    (∀ p ∈ l, NoShadow (s.types (s.vtyp v)) p.1) →
    ∀ f c j, s.vars v = .fake f c → lookup (bkey Cfg.fixed s v) (s.blds b).mockers = some j → (s.cms j).ctx = c →
    (s.ctxs c).canceled = false →
    runOk Cfg.fixed s (l.map fun p => Op.mock b v p.1 p.2.1 p.2.2) = some s' →
    s'.vars v = .fake f c ∧ (s'.fakes f).fn = specSlots (s.types (s.vtyp v)) l s.ncb (s.fakes f).fn := by
  induction l with
  | nil =>
    intro s s' _ _ f c j hv _ _ _ hs
    simp only [List.map_nil, runOk, Option.some.injEq] at hs
    subst hs
    exact ⟨hv, rfl⟩
  | cons p r ih =>
    intro s s' hr hns f c j hv hl hc hlive hs
    simp only [List.map_cons, runOk] at hs
    cases hq : step Cfg.fixed s (.mock b v p.1 p.2.1 p.2.2) with
    | none => simp [hq] at hs
    | some q =>
      obtain ⟨s1, st⟩ := q
      cases st with
      | panic c' => simp [hq] at hs
      | ok =>
        simp only [hq] at hs
        have hns0 := hns p List.mem_cons_self
        obtain ⟨h1, h2⟩ := dispatch_frame_live s s1 hr b v p.1 p.2.1 p.2.2 hns0 hq f c j hv hl hc hlive
        obtain ⟨f', c', j', e1, e2, e3, e4, e5, e6, e7⟩ := mock_establishes_live s s1 hr b v p.1 p.2.1 p.2.2 hq
        rw [h1] at e1
        cases e1
        have hr1 : Reachable s1 := reachable_step hr rfl hq
        have hns1 : ∀ p' ∈ r, NoShadow (s1.types (s1.vtyp v)) p'.1 := by
          intro p' hp'; rw [e6, e7]; exact hns p' (List.mem_cons_of_mem _ hp')
        obtain ⟨r1, r2⟩ := ih s1 s' hr1 hns1 f c j' h1 e2 e3 e4 hs
        refine ⟨r1, ?_⟩
        rw [r2, e6, e7, e5, h2]
        rfl

/-- non-vacuous: B, A again, B again (Return, When, Apply) on a two-method interface after a first mock of A -/
example : (runOk Cfg.fixed (St.init (fun _ => sortMeths ["B", "A"]) (fun _ => 0) (fun _ => .val 0) (fun _ => [0, 0]))
    [.mock 0 0 "A" .ap 0, .mock 0 0 "B" .rt 0, .mock 0 0 "A" (.wn 3) 0, .mock 0 0 "B" .ap 0]).map
      (fun s => (callSlot s 0 "A", callSlot s 0 "B")) = some (some (.stub 2), some (.stub 3)) := by decide

/-- **the backup is the value the variable holds when its mocking round starts** (state-level, over reachable states):
    when builder `b` has no mocker for `v` yet, or only a cancelled one (after `Reset` / `Cancel`), a successful mock
    starts a fresh context whose backup is exactly `v`'s current words — the value `reset_restores_all` later puts back
    (`backup_only_first_time`: no later mock of the round overwrites it). -/
theorem first_mock_backs_up_current_value (s s' : St) (hr : Reachable s) (b v : Nat) (m : String) (kind : Kind) (csig : Nat)
    (hfirst : ∀ j, lookup (bkey Cfg.fixed s v) (s.blds b).mockers = some j → (s.ctxs (s.cms j).ctx).canceled = true)
    (hs : step Cfg.fixed s (.mock b v m kind csig) = some (s', .ok)) :
    ∃ f, s'.vars v = .fake f s.nctx ∧ (s'.ctxs s.nctx).backup = some (v, s.vars v) ∧ (s'.ctxs s.nctx).canceled = false
      ∧ (s'.ctxs s.nctx).restored = false := by
  obtain ⟨j, s1, i, s2, s3, hr1, hr2, _, F, _, hcn, hvar, _, _, hp, rfl⟩ :=
    mockStep_ok (reachable_inv hr) hs
  -- `Interface` makes a fresh cached mocker whose context `s.nctx` is empty, and `Method` keeps the contexts
  have same := methodOf_same s1 j m
  rw [hr2] at same
  dsimp only at same
  rcases interfaceOf_cases Cfg.fixed { s with ncb := s.ncb + 1 } b v with ⟨j', hj', hc', _⟩ | e
  · rw [hfirst j' hj'] at hc'; cases hc'
  rw [hr1] at e
  cases e
  have hctx : (s2.cms s.ncm).ctx = s.nctx := by rw [same.ctx]; dsimp only [freshCM]; rw [upd_same]
  have hb0 : (s2.ctxs s.nctx).backup = none := by rw [same.ctxs]; dsimp only [freshCM]; rw [upd_same]
  obtain ⟨f, g, n, cache, rfl, _⟩ := proxyInterface_cases hp
  rw [hctx] at hcn
  refine ⟨f, ?_, ?_, ?_, ?_⟩ <;> dsimp only [proxyOut] <;> rw [hctx, (hvar rfl).1, upd_same]
  · dsimp only [proxyCtx]; rw [hb0, F.vars]
  · exact hcn
  · rfl

/-- non-vacuous: second round after a Reset and an assignment backs up the assigned value -/
example : (run Cfg.fixed (St.init (fun _ => sortMeths ["B", "A"]) (fun _ => 0) (fun _ => .val 0) (fun _ => [0, 0]))
    [.mock 0 0 "A" .ap 0, .reset 0, .assign 0 5, .mock 0 0 "B" .rt 0, .reset 0]).map (fun s => s.vars 0) = some (.val 5) := by
  decide

/-- **a second Reset keeps what the test assigned** (trace-level, repaired behaviour): from ANY reachable state, `b.Reset()`,
    then the test assigns `v`, then `b.Reset()` again (explicit plus deferred Reset, or the next table case that does not
    mock `v`): `v` still holds the assigned value — every context of `b` has already put its variable back, so the second
    Reset restores nothing. -/
theorem second_reset_keeps_assigned_value (s s1 s2 s3 : St) (hr : Reachable s) (b v x : Nat)
    (h1 : step Cfg.fixed s (.reset b) = some (s1, .ok)) (h2 : step Cfg.fixed s1 (.assign v x) = some (s2, .ok))
    (h3 : step Cfg.fixed s2 (.reset b) = some (s3, .ok)) : s3.vars v = .val x := by
  have hr1 : Reachable s1 := reachable_step hr rfl h1
  have hr2 : Reachable s2 := reachable_step hr1 rfl h2
  have hJ := reachable_inv2 hr
  obtain ⟨t1, e0, a2, _, _, aB, aC, _, _, a6⟩ := cancelMMs_gen (mmsOf s b) s (fun i _ hg => (hJ.g i hg).2)
  simp only [step, resetStep, e0, Option.map_some, Option.some.injEq, Prod.mk.injEq, and_true] at h1
  subst h1
  simp only [step, Option.some.injEq, Prod.mk.injEq, and_true] at h2
  subst h2
  have hmm : mmsOf { t1 with vars := upd t1.vars v (.val x) } b = mmsOf s b := by
    simp only [mmsOf]; rw [aB, aC]
  obtain ⟨_, _, h⟩ := reset_restores_all _ s3 hr2 b h3
  have hno : ¬ ∃ w, MockedThrough { t1 with vars := upd t1.vars v (.val x) } b v w := by
    rintro ⟨w, i, hi, hg, hrs, _⟩
    rw [hmm] at hi
    simp only at hg hrs
    have hg0 : (s.mms i).hasGuard = true := by rw [← (a2 i).2]; exact hg
    have := (a6 i hi hg0).2
    rw [(a2 i).1, this] at hrs
    cases hrs
  rw [h v hno]
  exact upd_same _ _ _

/-- non-vacuous: two mocked methods, Reset, assign implementation 7, Reset again -/
example : (run Cfg.fixed (St.init (fun _ => sortMeths ["B", "A"]) (fun _ => 0) (fun _ => .val 0) (fun _ => [0, 0]))
    [.mock 0 0 "A" .ap 0, .mock 0 0 "B" .rt 0, .reset 0, .assign 0 7, .reset 0]).map (fun s => s.vars 0) = some (.val 7) := by
  decide

/-- per-method Cancel after a Reset likewise keeps the assigned value, and a value assigned between rounds is what the next
    round backs up and its Reset restores -/
example : (run Cfg.fixed (St.init (fun _ => sortMeths ["B", "A"]) (fun _ => 0) (fun _ => .val 0) (fun _ => [0, 0]))
    [.mock 0 0 "A" .ap 0, .reset 0, .assign 0 7, .cancelM 0 0 "A", .mock 0 0 "B" .rt 0, .assign 0 3, .reset 0, .reset 0]).map
      (fun s => s.vars 0) = some (.val 7) := by
  decide

end C07
