import GoomVerif.Lemmas.C15L
import GoomVerif.Gen.Jmp386
import GoomVerif.Gen.JmpIfaceAmd64
import GoomVerif.Gen.IfaceConst
/-!
# C15 — emitted jump sequences transfer control to exactly the requested address

Every theorem quantifies over **all** 64-bit (32-bit for the 386 form) `from_`/`to`/`dx` and over every
machine state `m`.  The functions `Gen.*` are regenerated from goom's Go sources on every run by
`/verif/tools/gen`; the machine semantics `X86.exec` / `A64.exec` are the hand-written mini ISA specs.
-/
namespace C15
open C15L

/-- monkey_amd64.go `jmpToFunctionValue`: `RDX := to`, `RIP := [to]`; nothing else is even representable as changed. -/
theorem amd64_entry (from_ to : BitVec 64) (m : X86.Mach) :
    X86.exec (Gen.Amd64.jmpToFunctionValue from_ to) { m with rip := from_ } =
      some { m with rip := m.mem64 to, rdx := to } := by
  simp [Gen.Amd64.jmpToFunctionValue, X86.exec, leNat_bytes64]

/-- the emitted bytes determine the destination: executing them loads it into RDX -/
theorem amd64_entry_inj (from_ a b : BitVec 64)
    (h : Gen.Amd64.jmpToFunctionValue from_ a = Gen.Amd64.jmpToFunctionValue from_ b) : a = b := by
  have ha := amd64_entry from_ a ⟨0, 0, fun _ => 0⟩
  rw [h, amd64_entry] at ha
  exact (congrArg X86.Mach.rdx (Option.some.inj ha)).symm

/-- patch.go `replaceFunc` → jumpdata.go `genJumpData`, the call site: the divert sequence is emitted for `replacementInAddr`.  The
    obligation of the call site, made explicit: that argument is the address `fv` of the replacement's *function value*
    (the object whose first word is the code address).  Then the diverted function continues at the replacement's code
    with the closure context register pointing at the function value.  (The site lane reads `fv` from the variable
    itself, for every entry point of the package and every argument form it accepts.) -/
theorem entry_site (origin inAddr fv code : BitVec 64) (m : X86.Mach) (hwire : inAddr = fv) (hfv : m.mem64 fv = code) :
    X86.exec (Gen.Amd64.jmpToFunctionValue origin inAddr) { m with rip := origin } =
      some { m with rip := code, rdx := fv } := by
  subst hwire; subst hfv
  exact amd64_entry origin inAddr m

/-- …and the obligation is needed: handed the address `pvar` of a *variable holding* the function value (what the data
    word of `reflect.Indirect(reflect.ValueOf(&fn))`, or of `reflect.ValueOf(&fn)`, is) the same sequence continues at
    `fv` — the function-value object, data — with the context register pointing at the variable. -/
theorem entry_site_wrong_arg (origin pvar fv : BitVec 64) (m : X86.Mach) (hvar : m.mem64 pvar = fv) :
    X86.exec (Gen.Amd64.jmpToFunctionValue origin pvar) { m with rip := origin } =
      some { m with rip := fv, rdx := pvar } := by
  subst hvar
  exact amd64_entry origin pvar m

/-- non-vacuity: a closure object at 0xc000014820 whose code is at 0x616d60, held in a variable at 0xc00006a148 -/
example : let m : X86.Mach := { rip := 0, rdx := 0, mem64 := fun a => if a = 0xc000014820#64 then 0x616d60#64 else 0xc000014820#64 }
    m.mem64 0xc000014820#64 = 0x616d60#64 ∧ m.mem64 0xc00006a148#64 = 0xc000014820#64 := by decide

/-- the divert sequence is 13 bytes and begins with the NOP sentinel that `checkAlreadyPatch` looks for -/
theorem amd64_entry_shape (from_ to : BitVec 64) :
    (Gen.Amd64.jmpToFunctionValue from_ to).length = 13 ∧
    Gen.Amd64.checkAlreadyPatch (Gen.Amd64.jmpToFunctionValue from_ to) = true ∧
    (Gen.Amd64.jmpToFunctionValue from_ to).head? = some Gen.Amd64.nopOpcode := by
  simp [Gen.Amd64.jmpToFunctionValue, Gen.Amd64.checkAlreadyPatch, Gen.Amd64.nopOpcode]

/-- iface/jmp_amd64.go `jmpWithRdx`: enter an interface stub with the context register loaded. -/
theorem amd64_stub (dx : BitVec 64) (m : X86.Mach) :
    X86.exec (Gen.IfaceAmd64.jmpWithRdx dx) m = some { m with rip := m.mem64 dx, rdx := dx } := by
  simp [Gen.IfaceAmd64.jmpWithRdx, X86.exec, leNat_bytes64]

/-- make_method.go `interfaceJumpDataLen`, `MakeMethodCaller`, `MakeMethodCallerWithCtx`: every stub is written into a
    slot of `interfaceJumpDataLen` bytes handed out back to back by `stub.Acquire`, and `stub.Write` has no length
    check — the emitted stub must fit its slot or the next stub overwrites its tail.  amd64: 12 bytes. -/
theorem amd64_stub_fits_slot (dx : BitVec 64) :
    (Gen.IfaceAmd64.jmpWithRdx dx).length = 12 ∧
    (Gen.IfaceAmd64.jmpWithRdx dx).length ≤ Gen.IfaceConst.interfaceJumpDataLen := by
  simp [Gen.IfaceAmd64.jmpWithRdx, Gen.IfaceConst.interfaceJumpDataLen]

/-- the relative form is chosen exactly when the displacement that is actually encoded, `to-(from+5)`,
    fits the signed 32-bit field -/
theorem relative_spec (from_ to : BitVec 64) :
    Gen.Amd64.relative from_ to = true ↔
      (-(2:Int)^31 ≤ (to - from_ - 5#64).toInt ∧ (to - from_ - 5#64).toInt ≤ 2^31 - 1) := by
  simp only [Gen.Amd64.relative, BitVec.sle, Bool.and_eq_true, decide_eq_true_eq]
  exact Iff.rfl

/-- `relative` characterised without reference to its own arithmetic: the relative form is chosen exactly when
    *some* value `d` of the signed 32-bit field exists with which a 5-byte jump placed at `from_` reaches `to`
    (`to = from_ + 5 + sext d` in 64-bit address arithmetic). -/
theorem relative_iff_reachable (from_ to : BitVec 64) :
    Gen.Amd64.relative from_ to = true ↔ ∃ d : BitVec 32, to = from_ + 5#64 + BitVec.signExtend 64 d := by
  rw [relative_spec, fits_iff_sext]
  refine exists_congr fun d => ?_
  rw [BitVec.sub_eq_iff_eq_add, BitVec.sub_eq_iff_eq_add, BitVec.add_comm _ from_, BitVec.add_comm _ 5#64,
    ← BitVec.add_assoc]

/-- A rel32 jump is position dependent: the bytes emitted for the position `emitFor`, when they execute at `from_`,
    land `from_ - emitFor` bytes past `to`.  This is what goes wrong when the `from` argument handed to the emitter is
    not the address the bytes end up at (wrong length added to the trampoline address; an image assembled for one
    trampoline copied into another). -/
theorem amd64_origin_rel_displaced (emitFor from_ to : BitVec 64) (m : X86.Mach)
    (h : Gen.Amd64.relative emitFor to = true) :
    X86.exec (Gen.Amd64.jmpToOriginFunctionValue emitFor to) { m with rip := from_ } =
      some { m with rip := to + (from_ - emitFor) } := by
  rw [origin_rel_bytes emitFor to h, exec_e9, sext_setWidth _ ((relative_spec emitFor to).1 h)]
  exact congrArg (fun r => some { m with rip := r }) (landing emitFor from_ to)

/-- whenever the relative (5-byte) form is chosen it lands exactly on `to` -/
theorem amd64_origin_rel (from_ to : BitVec 64) (m : X86.Mach) (h : Gen.Amd64.relative from_ to = true) :
    X86.exec (Gen.Amd64.jmpToOriginFunctionValue from_ to) { m with rip := from_ } = some { m with rip := to } := by
  have := amd64_origin_rel_displaced from_ from_ to m h
  rwa [BitVec.sub_self, BitVec.add_zero] at this

/-- otherwise the absolute form `JMP [RIP+0] ; .quad to` arrives at exactly `to` as well: the pointer
    is read from the sequence itself, no register is involved -/
theorem amd64_origin_abs (from_ to : BitVec 64) (m : X86.Mach) (h : Gen.Amd64.relative from_ to = false) :
    X86.exec (Gen.Amd64.jmpToOriginFunctionValue from_ to) { m with rip := from_ } = some { m with rip := to } := by
  simp [Gen.Amd64.jmpToOriginFunctionValue, h, X86.exec, leNat_bytes64]

/-- non-vacuity: both forms are reachable (a near and a far pair) -/
example : Gen.Amd64.relative 0x401000#64 0x455000#64 = true ∧
          Gen.Amd64.relative 0x7f0000001000#64 0x401000#64 = false := by decide

/-! ### Return from a trampoline (clause "…to return from a trampoline transfer control to exactly the intended destination")

`jmpToOriginFunctionValue from_ to` is the jump **back into code**: `to = origin + n` is the address of the first origin
instruction that was not relocated.  "Exactly the intended destination" therefore means `RIP = to` — not `RIP = [to]` —
and, since the jump sits in the middle of the origin function's instruction stream, no register may change. -/

/-- The clause at full strength; proved as `return_exact`. -/
def ReturnExact : Prop :=
  ∀ (from_ to : BitVec 64) (m : X86.Mach),
    X86.exec (Gen.Amd64.jmpToOriginFunctionValue from_ to) { m with rip := from_ } = some { m with rip := to }

/-- the relative-form case of `return_exact`, with the untouched components `rdx`, `mem64` spelt out -/
theorem return_exact_partial (from_ to : BitVec 64) (m : X86.Mach) (h : Gen.Amd64.relative from_ to = true) :
    ∃ m', X86.exec (Gen.Amd64.jmpToOriginFunctionValue from_ to) { m with rip := from_ } = some m' ∧
      m'.rip = to ∧ m'.rdx = m.rdx ∧ m'.mem64 = m.mem64 :=
  ⟨_, amd64_origin_rel from_ to m h, rfl, rfl, rfl⟩

/-- **return from a trampoline lands exactly on the destination, nothing else changes** — every `from_`, `to`, state -/
theorem return_exact : ReturnExact := by
  intro from_ to m
  cases h : Gen.Amd64.relative from_ to
  · exact amd64_origin_abs from_ to m h
  · exact amd64_origin_rel from_ to m h

/-- non-vacuity of `return_exact_partial`: a trampoline 0x2f000 bytes after the origin (the usual situation) -/
example : Gen.Amd64.relative (0x430000#64 + 18#64) (0x401000#64 + 14#64) = true := by decide

/-- fix_origin_amd64.go `fixOriginFuncToTrampoline`, the call site of the jump back: the image written at `tramp` is
    `fixed ++ jmpToOriginFunctionValue (tramp + len fixed) (origin + n)`.  The placement obligation is explicit: the jump is the part of the image after
    `fixed.length` bytes, so it executes at `tramp + fixed.length`, which is exactly the `from` argument; then it lands on
    `origin + n`.  (The probe observes `tramp`, `fixed.length`, `origin`, `n` and the bytes in memory on every run.) -/
theorem jump_back_site (tramp origin : BitVec 64) (fixed : List (BitVec 8)) (n : Nat) (m : X86.Mach)
    (from_ : BitVec 64) (hplace : from_ = tramp + BitVec.ofNat 64 fixed.length)
    (h : Gen.Amd64.relative from_ (origin + BitVec.ofNat 64 n) = true) :
    X86.exec ((fixed ++ Gen.Amd64.jmpToOriginFunctionValue (tramp + BitVec.ofNat 64 fixed.length)
        (origin + BitVec.ofNat 64 n)).drop fixed.length) { m with rip := from_ } =
      some { m with rip := origin + BitVec.ofNat 64 n } := by
  subst hplace
  rw [List.drop_left]
  exact amd64_origin_rel _ _ m h

/-- …and the obligation is needed: an emitter call with any other `from` (`tramp + k`, `k ≠ fixed.length`; or another
    trampoline's address) misses `origin + n` by the difference. -/
theorem jump_back_site_wrong_from (tramp origin wrongFrom : BitVec 64) (fixed : List (BitVec 8)) (n : Nat) (m : X86.Mach)
    (h : Gen.Amd64.relative wrongFrom (origin + BitVec.ofNat 64 n) = true) :
    X86.exec ((fixed ++ Gen.Amd64.jmpToOriginFunctionValue wrongFrom (origin + BitVec.ofNat 64 n)).drop fixed.length)
        { m with rip := tramp + BitVec.ofNat 64 fixed.length } =
      some { m with rip := origin + BitVec.ofNat 64 n + (tramp + BitVec.ofNat 64 fixed.length - wrongFrom) } := by
  rw [List.drop_left]
  exact amd64_origin_rel_displaced _ _ _ m h

/-- non-vacuity of the two site theorems: head of 14 bytes relocated to 18 (one rel8 widened), trampolines A and B -/
example : Gen.Amd64.relative (0x430000#64 + BitVec.ofNat 64 18) (0x401000#64 + BitVec.ofNat 64 14) = true ∧
          Gen.Amd64.relative (0x430100#64 + BitVec.ofNat 64 18) (0x401000#64 + BitVec.ofNat 64 14) = true := by decide

/-- the emitted length is 5 (relative) or 14 (absolute): what `len(fixedData)+len(jumpBack)` is compared with the
    trampoline size in `fixOriginFuncToTrampoline` -/
theorem amd64_origin_len (from_ to : BitVec 64) :
    (Gen.Amd64.jmpToOriginFunctionValue from_ to).length = if Gen.Amd64.relative from_ to then 5 else 14 := by
  simp only [Gen.Amd64.jmpToOriginFunctionValue]
  split
  · split <;> rfl
  · rfl

/-- 386 form (monkey_386.go): `MOV EDX, to ; JMP [EDX]` -/
theorem i386_entry (from_ to : BitVec 32) (m : X86.Mach32) :
    X86.exec32 (Gen.I386.jmpToFunctionValue from_ to) m = some { m with edx := to, eip := m.mem32 to } := by
  simp [Gen.I386.jmpToFunctionValue, X86.exec32, leNat_bytes32]

theorem i386_entry_len (from_ to : BitVec 32) : (Gen.I386.jmpToFunctionValue from_ to).length = 7 := by
  simp [Gen.I386.jmpToFunctionValue]

/-- monkey_arm64.go `jmpToFunctionValue`: the four moves reassemble `dx` in X26, `X10 := [X26]`, `BR X10`;
    every other register and memory unchanged. -/
theorem arm64_entry (from_ dx : BitVec 64) (m : A64.Mach) :
    ∃ m', A64.exec (Gen.Arm64.jmpToFunctionValue from_ dx) m = some m' ∧
      m'.pc = m.mem64 dx ∧ m'.x 26 = dx ∧ m'.x 10 = m.mem64 dx ∧
      (∀ r, r ≠ 26 → r ≠ 10 → m'.x r = m.x r) ∧ m'.mem64 = m.mem64 := by
  simp only [Gen.Arm64.jmpToFunctionValue, List.replicate, List.nil_append, List.append_assoc]
  exact arm64_seq dx m decode_ldr decode_br (by decide) (by decide)

theorem ifaceMovImm_eq : Gen.IfaceArm64.movImm = Gen.Arm64.movImm := rfl

/-- iface/jmp_arm64.go `jmpWithRdx`: same with X27 as the scratch register -/
theorem arm64_stub (dx : BitVec 64) (m : A64.Mach) :
    ∃ m', A64.exec (Gen.IfaceArm64.jmpWithRdx dx) m = some m' ∧
      m'.pc = m.mem64 dx ∧ m'.x 26 = dx ∧ m'.x 27 = m.mem64 dx ∧
      (∀ r, r ≠ 26 → r ≠ 27 → m'.x r = m.x r) ∧ m'.mem64 = m.mem64 := by
  simp only [Gen.IfaceArm64.jmpWithRdx, ifaceMovImm_eq, List.replicate, List.nil_append, List.append_assoc]
  exact arm64_seq dx m (by decide) (by decide) (by decide) (by decide)

theorem arm64_stub_ctx (ctx a b : BitVec 64) (m : A64.Mach) :
    ∃ m', A64.exec (Gen.IfaceArm64.jmpWithRdxAndCtx ctx a b) m = some m' ∧
      m'.pc = m.mem64 ctx ∧ m'.x 26 = ctx ∧ m'.x 27 = m.mem64 ctx ∧
      (∀ r, r ≠ 26 → r ≠ 27 → m'.x r = m.x r) ∧ m'.mem64 = m.mem64 := by
  simp only [Gen.IfaceArm64.jmpWithRdxAndCtx, ifaceMovImm_eq, List.replicate, List.nil_append, List.append_assoc]
  exact arm64_seq ctx m (by decide) (by decide) (by decide) (by decide)

/-- arm64 stubs are 24 bytes (six instructions) and fit the `interfaceJumpDataLen` slot of make_method.go; the entry
    jump is 24 bytes too (what `genJumpData` compares with the origin's size). -/
theorem arm64_stub_fits_slot (dx : BitVec 64) :
    (Gen.IfaceArm64.jmpWithRdx dx).length = 24 ∧
    (Gen.IfaceArm64.jmpWithRdx dx).length ≤ Gen.IfaceConst.interfaceJumpDataLen := by
  simp [Gen.IfaceArm64.jmpWithRdx, ifaceMovImm_eq, movImm_length, Gen.IfaceConst.interfaceJumpDataLen]

theorem arm64_stub_ctx_fits_slot (ctx a b : BitVec 64) :
    (Gen.IfaceArm64.jmpWithRdxAndCtx ctx a b).length = 24 ∧
    (Gen.IfaceArm64.jmpWithRdxAndCtx ctx a b).length ≤ Gen.IfaceConst.interfaceJumpDataLen := by
  simp [Gen.IfaceArm64.jmpWithRdxAndCtx, ifaceMovImm_eq, movImm_length, Gen.IfaceConst.interfaceJumpDataLen]

theorem arm64_entry_len (from_ dx : BitVec 64) : (Gen.Arm64.jmpToFunctionValue from_ dx).length = 24 := by
  simp [Gen.Arm64.jmpToFunctionValue, movImm_length]

/-- "return from a trampoline" does not exist on arm64: monkey_arm64.go `jmpToOriginFunctionValue` is
    `panic("not support yet")` (and fix_origin_arm64.go panics before reaching it), so the clause has no arm64 instance
    to prove.  This theorem is the guard for that reading: the day the function is implemented it stops checking, and a
    landing theorem (+ an `arm64.origin` oracle in checks/C15.py) has to be added in its place. -/
theorem arm64_origin_unimplemented (from_ to : BitVec 64) :
    Gen.Arm64.jmpToOriginFunctionValue from_ to = .error "panic" := rfl

/-- field layout of one move-wide instruction (Arm ARM C6.2.191/192): sf=1, opc, 100101, hw, imm16, Rd=26 -/
theorem arm64_movImm_fields (opc shift val : BitVec 64) (ho : opc.toNat < 4) (hs : shift.toNat < 4)
    (hv : val.toNat < 65536) :
    X86.leNat (Gen.Arm64.movImm opc shift val) =
      2^31 + opc.toNat * 2^29 + 37 * 2^23 + shift.toNat * 2^21 + val.toNat * 32 + 26 :=
  movImm_word opc shift val ho hs hv

end C15
