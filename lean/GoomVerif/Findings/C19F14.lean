import GoomVerif.Props.C19
/-! Finding F14 (property C19): when the mocked function is one that goom's console logger calls while formatting a
    line — `strconv.Itoa` (logger.go `caller`), `fmt.Sprintf`, `path.Base`, `strings.Join`, … — the debug wrapper's log call
    (the `Consolefc` calls of `interceptDebugInfo`) re-enters the patched function, i.e. the wrapper, without bound: fatal
    stack overflow, only with debug logging open and only while the console level is on.  The first such log call is the
    "mocker [..] apply." line at the end of `doApply` (mocker.go) / `applyByIFaceMethod` (iface.go) itself.
    debug.go `excludeFunc` special-cases exactly one such function (`time.Now`).  With `env.loggerCalls = true` the full-strength
    statement `C19.DebugTransparent` is false.  Not an obligation. -/
namespace Findings.C19F14
open Debug C19

def env : Env :=
  { sig := { params := [.int], velem := none, nOut := 1, isMethod := false }, kind := .patch, name := "strconv.Itoa",
    render := fun v => some v.tok, orig := fun a => [intVal (sumV a)] }

/-- `strconv.Itoa` is in the list of functions the console logger calls -/
theorem logger_calls_it : env.loggerCalls = true := by decide +kernel

def ops : List Op := [.apply { name := "sum1", kind := .sum, k := 1 }, .call [intVal 5]]

theorem debug_run_dies :
    (run env (initSt .debug) ops).2.dead = true ∧ (run env (initSt .off) ops).2.dead = false ∧
    obs env (initSt .off) ops = ["ok", "cbsum1(5)->r:6"] ∧ obs env (initSt .debug) ops = ["->CRASH"] := by decide +kernel

/-- debug logging closed before `Apply`: `interceptDebugInfo` installs the callback unwrapped and the call is fine -/
def ops2 : List Op := [.dbg .off, .apply { name := "sum1", kind := .sum, k := 1 }, .call [intVal 5]]
theorem applied_while_closed_is_fine : obs env (initSt .debug) ops2 = ["ok", "ok", "cbsum1(5)->r:6"] := by decide +kernel

theorem not_transparent : ¬ DebugTransparent env := by
  intro h
  have := h .debug ops
  rw [debug_run_dies.2.2.2, debug_run_dies.2.2.1] at this
  simp at this

/-- fmt is total here: the failure is independent of F13 -/
theorem fmt_total : ∀ v, (env.render v).isSome = true := fun _ => rfl

end Findings.C19F14
