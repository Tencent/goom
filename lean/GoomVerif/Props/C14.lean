import GoomVerif.Lemmas.C14L
import GoomVerif.Lemmas.C14HL
/-!
# C14 — a patch touches only the target's entry bytes and leaves pages read+execute

All theorems quantify over **every** 64-bit address `a`, **every** byte list `data` (any length, any number of page
crossings) and **every** address-space state `s`.  `Gen.Page.PageStart` (inside `pageOf`/`pages`) is regenerated from
`internal/bytecode/memory/memory.go:15` on every run; `Mem.writeTo`/`Mem.pages` transcribe `mwrite_amd64.go:19` and
`mwrite_unix.go:11` and are tied to the real code by the differential run (real `WriteTo` under `strace`).

`NoWrap a n := a.toNat + n ≤ 2^64 - 4096` (the write stays below the last page of the address space) is the explicit
hypothesis under which `addr+uintptr(length)` and `p += pageSize` do not wrap; `pages_wrapped_empty` says what the code
does otherwise (it changes no protection, so the copy would fault).  `MappedAll s (pages a n)` is "every visited page is
mapped"; `s.denyWX = false` is "the kernel has no W^X policy".  With a W^X policy the RWX request is refused and `writeTo`
takes the fall-back of `mwrite_prot.go`, modelled as `Mem.fallbackWrite`: it is correct for bytes and final protections
(`fallback_write_correct`) but goes through rw-, i.e. drops x for the duration — the full statement `XKeptOnEveryPath` is
false there (`Findings/C14Fallback.lean`), `x_kept_finally_partial` carries the hypothesis.
-/
namespace C14
open Mem C14L

/-- **cover**: every byte of the write lies in a page the loop visits. -/
theorem pages_cover (a : Addr) (n i : Nat) (h : NoWrap a n) (hi : i < n) :
    pageOf (a + BitVec.ofNat 64 i) ∈ pages a n :=
  C14L.pages_cover a n i h hi

/-- **tight**: a non-empty write visits no page that does not hold one of its bytes. -/
theorem pages_tight (a : Addr) (n : Nat) (p : Addr) (h : NoWrap a n) (hn : 0 < n) (hp : p ∈ pages a n) :
    ∃ i, i < n ∧ pageOf (a + BitVec.ofNat 64 i) = p :=
  C14L.pages_tight a n p h hn hp

/-- hypotheses satisfiable with two page crossings: 5000 bytes from 0x401ffa touch exactly three pages -/
example : NoWrap 0x401ffa#64 5000 ∧ pages 0x401ffa#64 5000 = [0x401000#64, 0x402000#64, 0x403000#64] := by
  constructor
  · unfold NoWrap; decide
  · decide

/-- the loop ends by its own condition: extra fuel never adds a page (the fuel in `Mem.pages` is not a cut-off). -/
theorem pages_fuel_irrelevant (a : Addr) (n extra : Nat) (h : NoWrap a n) (q : Addr) :
    q ∈ pagesLoop (n / pageSize + 2 + extra) (Gen.Page.PageStart a) (a + BitVec.ofNat 64 n) ↔ q ∈ pages a n :=
  (mem_pages_fuel h (Nat.le_add_right ..)).trans (mem_pages h).symm

/-- what the code does when `addr+length` wraps past 2^64 (`length` is a Go `int`, so `< 2^63`): the loop condition is
    false at once, **no** protection is changed (and the copy then faults on a read-only page).  Not reachable for
    user-space addresses; stated so the `NoWrap` hypothesis is not hiding anything. -/
theorem pages_wrapped_empty (a : Addr) (n : Nat) (hn : n < 2^63) (hw : 2^64 ≤ a.toNat + n) : pages a n = [] := by
  have ha := a.isLt
  have hlim : (a + BitVec.ofNat 64 n).toNat = a.toNat + n - 2^64 := by
    rw [BitVec.toNat_add, BitVec.toNat_ofNat, Nat.add_mod_mod, Nat.mod_eq_sub_mod hw, Nat.mod_eq_of_lt (by omega)]
  -- the wrapped end lies below `a - 2^63`, the start of `a`'s page above `a - 4096`
  have hps : a.toNat < (Gen.Page.PageStart a).toNat + 4096 := by
    rw [ps_toNat]; exact Nat.lt_div_mul_add (by decide)
  have hnlt : ¬ (Gen.Page.PageStart a < a + BitVec.ofNat 64 n) := by
    rw [BitVec.lt_def, hlim]; omega
  rw [pages, pagesLoop, if_neg hnlt]

/-- **frame** (unconditional — also on every failing path): a byte outside `[a, a+len data)` is never changed. -/
theorem write_frame (a : Addr) (data : List Byte) (s : State) (q : Addr)
    (hq : ∀ j, j < data.length → q ≠ a + BitVec.ofNat 64 j) :
    (writeTo a data s).1.mem q = s.mem q :=
  writeTo_frame hq

/-- **intact + success**: when `mprotect` is not refused the write succeeds and every byte `data[j]` is at `a+j`
    afterwards, across any number of page boundaries. -/
theorem write_intact (a : Addr) (data : List Byte) (s : State) (h : NoWrap a data.length)
    (hm : MappedAll s (pages a data.length)) (hd : s.denyWX = false) :
    (writeTo a data s).2 = Outcome.ok ∧
    ∀ j (hj : j < data.length), (writeTo a data s).1.mem (a + BitVec.ofNat 64 j) = data[j] := by
  rw [writeTo_ok h hm hd]
  exact ⟨rfl, written_mem_at h⟩

/-- a two-page-crossing write whose hypotheses hold: all pages mapped r-x, 5000 bytes from 0x401ffa
    (the same two hypotheses are those of `final_perms`, `no_page_left_writable` and `copy_never_faults` below; the
    extra hypothesis of `no_page_left_writable`, "no page writable before", holds in this state too) -/
example : ∃ s : State, NoWrap 0x401ffa#64 (List.replicate 5000 (0x90#8)).length ∧
    MappedAll s (pages 0x401ffa#64 (List.replicate 5000 (0x90#8)).length) :=
  ⟨{ mem := fun _ => 0, perm := fun _ => some RX }, by simp only [List.length_replicate]; unfold NoWrap; decide, fun _ _ => rfl⟩

/-- **length 0 is a no-op on memory** (unconditional).  On protections it is *not* quite nothing: see `pages_zero`. -/
theorem write_empty_mem (a : Addr) (s : State) : (writeTo a [] s).1.mem = s.mem := by
  funext q
  exact write_frame a [] s q (fun j hj => by cases hj)

/-- `mProtectCrossPage(a, 0, _)` visits no page when `a` is page-aligned and exactly the page of `a` otherwise
    (`PageStart(a) < a+0`): an empty write flips that one page to RWX and back to RX. -/
theorem pages_zero (a : Addr) (h : NoWrap a 0) (q : Addr) :
    q ∈ pages a 0 ↔ (a.toNat % 4096 ≠ 0 ∧ q = pageOf a) := by
  rw [mem_pages h, Nat.add_zero]
  constructor
  · -- the only multiple of 4096 in `[⌊a⌋, a)` is `⌊a⌋`, and it is there only if `a` is not one
    rintro ⟨hal, hlo, hhi⟩
    have hfl := floor_eq hal hlo (Nat.le_of_lt hhi)
    refine ⟨fun ha => ?_, BitVec.eq_of_toNat_eq (hfl.symm.trans (pageOf_toNat a).symm)⟩
    rw [← hfl, Nat.div_mul_cancel (Nat.dvd_of_mod_eq_zero ha)] at hhi
    exact Nat.lt_irrefl _ hhi
  · rintro ⟨hna, rfl⟩
    rw [pageOf_toNat]
    refine ⟨Nat.mul_mod_left .., Nat.le_refl _, Nat.lt_of_le_of_ne (Nat.div_mul_le_self ..) (fun e => hna ?_)⟩
    rw [← e]; exact Nat.mul_mod_left ..

/-- **x is never dropped**: at *every* prefix of the script (every intermediate state of `WriteTo`, whether or not a
    later step fails) a page that was executable is still mapped and executable — other threads keep running. -/
theorem x_never_dropped (a : Addr) (data : List Byte) (s : State) (k : Nat) (p : Addr) (hx : Exec s p) :
    Exec (run s ((script a data).take k)).1 p :=
  run_exec (fun _ _ hm => script_x (List.mem_of_mem_take hm)) hx

/-- when the RWX request is not refused, the states of the procedural `writeTo` are exactly the states of that script
    (it stops at the first failing step) -/
theorem writeTo_runs_script (a : Addr) (data : List Byte) (s : State)
    (h1 : (run s (protScript a data.length RWX)).2 = none) :
    (writeTo a data s).1 = (run s (script a data)).1 :=
  writeTo_state h1

/-- the full-strength clause "pages remain executable throughout", on every path of `WriteTo`: FALSE on the fall-back
    path (see `Findings/C14Fallback.lean`). -/
def XKeptOnEveryPath : Prop :=
  ∀ (a : Addr) (data : List Byte) (s : State) (p : Addr), Exec s p →
    (∀ k, Exec (run s ((script a data).take k)).1 p) ∧
    ((run s (protScript a data.length RWX)).2 ≠ none →
      ∀ k, Exec (run (run s (protScript a data.length RWX)).1 ((fallbackScript a data).take k)).1 p)

/-- … hence also in the final state of `WriteTo`, on every path on which the RWX request was not refused (including all
    later failures).  Excluded: the fall-back `mwrite_prot.go:3008`, which requests rw- . -/
theorem x_kept_finally_partial (a : Addr) (data : List Byte) (s : State) (p : Addr) (hx : Exec s p)
    (h1 : (run s (protScript a data.length RWX)).2 = none) :
    Exec (writeTo a data s).1 p := by
  rw [writeTo_state h1]
  exact run_exec (fun _ _ => script_x) hx

/-- the hypothesis of `x_kept_finally_partial` holds whenever the visited pages are mapped and there is no W^X policy -/
theorem rwx_not_refused (a : Addr) (data : List Byte) (s : State)
    (hm : MappedAll s (pages a data.length)) (hd : s.denyWX = false) :
    (run s (protScript a data.length RWX)).2 = none := by
  rw [protScript, run_prot RWX _ s hm (fun _ => allowed_of_no_policy s RWX hd)]

/-- **the fall-back is correct for bytes and final protections**: with a W^X policy (every RWX request refused) and all
    visited pages mapped, `WriteTo` still returns nil, the data is intact, and exactly the visited pages end r-x.
    The statement does not say which path was taken (under the policy it is the fall-back as soon as one page is
    visited: `C14L.writeTo_mapped`); the three conclusions hold without the policy too. -/
theorem fallback_write_correct (a : Addr) (data : List Byte) (s : State) (h : NoWrap a data.length)
    (hm : MappedAll s (pages a data.length)) (hd : s.denyWX = true) :
    (writeTo a data s).2.returned = true ∧
    (∀ j (hj : j < data.length), (writeTo a data s).1.mem (a + BitVec.ofNat 64 j) = data[j]) ∧
    ∀ q, (writeTo a data s).1.perm q = if q ∈ pages a data.length then some RX else s.perm q := by
  obtain ⟨hw, hret, _⟩ := writeTo_mapped h hm
  rw [hw]
  exact ⟨hret, written_mem_at h, written_perm⟩

/-- a state with a W^X policy in which the hypotheses of `fallback_write_correct` hold (13 bytes across a page end) -/
example : ∃ s : State, s.denyWX = true ∧ NoWrap 0x401ffa#64 13 ∧ MappedAll s (pages 0x401ffa#64 13) :=
  ⟨{ mem := fun _ => 0, perm := fun _ => some RX, denyWX := true }, rfl, by unfold NoWrap; decide, fun _ _ => rfl⟩

/-- **final protections**: exactly the visited pages end as r-x, every other page keeps its protection. -/
theorem final_perms (a : Addr) (data : List Byte) (s : State) (h : NoWrap a data.length)
    (hm : MappedAll s (pages a data.length)) (hd : s.denyWX = false) (q : Addr) :
    (writeTo a data s).1.perm q = if q ∈ pages a data.length then some RX else s.perm q := by
  rw [(writeTo_mapped h hm).1, written_perm]

/-- **no page left writable** if none was before. -/
theorem no_page_left_writable (a : Addr) (data : List Byte) (s : State) (h : NoWrap a data.length)
    (hm : MappedAll s (pages a data.length)) (hd : s.denyWX = false)
    (hnw : ∀ p pr, s.perm p = some pr → pr.w = false) :
    ∀ p pr, (writeTo a data s).1.perm p = some pr → pr.w = false := by
  intro p pr hp
  rw [final_perms a data s h hm hd p] at hp
  split at hp
  · cases hp; rfl
  · exact hnw p pr hp

/-- **no page of the program image is left writable** — the clause as the property states it, for a real process whose
    heap/stack/.data are of course writable: for ANY set `img` of pages (the text segment, the whole image, …) on which no
    page was writable before, none is writable afterwards; pages outside `img` are not constrained.  Holds with and
    without a W^X policy (normal path and fall-back). -/
theorem no_image_page_left_writable (a : Addr) (data : List Byte) (s : State) (img : Addr → Prop)
    (h : NoWrap a data.length) (hm : MappedAll s (pages a data.length))
    (hnw : ∀ p pr, img p → s.perm p = some pr → pr.w = false) :
    ∀ p pr, img p → (writeTo a data s).1.perm p = some pr → pr.w = false := by
  intro p pr hi hp
  rw [(writeTo_mapped h hm).1, written_perm] at hp
  split at hp
  · cases hp; rfl
  · exact hnw p pr hi hp

/-- non-vacuity: a process with a writable heap page (outside `img`) and an r-x text page (inside), writing 13 bytes to
    the text page -/
example : ∃ (s : State) (img : Addr → Prop), (∃ p pr, s.perm p = some pr ∧ pr.w = true) ∧ img 0x401000#64 ∧
    NoWrap 0x401100#64 13 ∧ MappedAll s (pages 0x401100#64 13) ∧
    (∀ p pr, img p → s.perm p = some pr → pr.w = false) :=
  ⟨{ mem := fun _ => 0, perm := fun p => if p = 0x401000#64 then some RX else some RW }, fun p => p = 0x401000#64,
    ⟨0xc000000000#64, RW, by decide, rfl⟩, rfl, by unfold NoWrap; decide, fun _ _ => by
      show (if _ = _ then some RX else some RW).isSome = true
      split <;> rfl,
    fun p pr hi hp => by
      have hi' : p = 0x401000#64 := hi
      subst hi'
      simp only [if_true] at hp
      cases hp; rfl⟩

/-- **the copy never faults**: at copy time (after the first `mprotect` pass) every byte to be written lies in a page
    that is RWX. -/
theorem copy_never_faults (a : Addr) (data : List Byte) (s : State) (h : NoWrap a data.length)
    (hm : MappedAll s (pages a data.length)) (hd : s.denyWX = false) (j : Nat) (hj : j < data.length) :
    (run s (protScript a data.length RWX)).1.perm (pageOf (a + BitVec.ofNat 64 j)) = some RWX := by
  rw [protScript, run_prot RWX _ s hm (fun _ => allowed_of_no_policy s RWX hd)]
  simp only [setMany, C14L.pages_cover a data.length j h hj, if_true]

/-! ## patch layer (jumpdata.go, guard.go, fix_origin_amd64.go) -/

/-- the entry jump is 13 bytes for every origin/target (generated `jmpToFunctionValue`) -/
theorem jump_len (origin to : Addr) : (Gen.Amd64.jmpToFunctionValue origin to).length = 13 :=
  C14L.jump_len origin to

/-- **too short is refused before anything is written**: `funcSize ≤ 13` → error, state untouched (bytes and
    protections), whatever placeholder was supplied. -/
theorem too_short_refused (origin to : Addr) (funcSize : Nat) (tramp : Option (Addr × Nat × List Byte)) (s : State)
    (h : funcSize ≤ 13) :
    install origin to funcSize tramp s = (s, InstallRes.refused "jumpInstSize-bigger-than-origin-FuncSize") := by
  rw [install, genJumpData_eq, if_pos h]

/-- conversely a longer function is not refused for its size -/
theorem long_enough_accepted (origin to : Addr) (funcSize : Nat) (s : State) (h : 13 < funcSize) :
    ∃ s' o, install origin to funcSize none s = (s', InstallRes.done o) := by
  rw [install, genJumpData_eq, if_neg (Nat.not_le_of_lt h)]
  exact ⟨_, _, rfl⟩

def InRange (a : Addr) (n : Nat) (q : Addr) : Prop := ∃ j, j < n ∧ q = a + BitVec.ofNat 64 j

/-- **only the entry bytes (and the placeholder's own body)**: whatever `install` does — success, refusal, or failure
    half-way — a byte outside the first `funcSize` (indeed the first 13) bytes of the target and outside the
    placeholder's own `trampFuncSize` bytes is unchanged.  So no byte of a neighbouring function changes. -/
theorem install_touches_only (origin to : Addr) (funcSize : Nat) (tramp : Option (Addr × Nat × List Byte))
    (s : State) (q : Addr)
    (hq : ¬ InRange origin (min 13 funcSize) q)
    (ht : ∀ t tsize fix, tramp = some (t, tsize, fix) → ¬ InRange t tsize q) :
    (install origin to funcSize tramp s).1.mem q = s.mem q := by
  rw [install, genJumpData_eq]
  by_cases hsz : funcSize ≤ 13
  · rw [if_pos hsz]
  · rw [if_neg hsz]
    -- the entry write, from any state.  Below each result of `writeTo` is generalized before the `let` that takes it apart
    -- is reduced: matched against the `let` directly, the unifier starts evaluating `writeTo`.
    have hentry : ∀ s0 : State, (writeTo origin (Gen.Amd64.jmpToFunctionValue origin to) s0).1.mem q = s0.mem q :=
      fun s0 => write_frame origin _ s0 q (fun j hj e => hq ⟨j, by rw [jump_len] at hj; omega, e⟩)
    cases tramp with
    | none =>
      have := hentry s
      dsimp only
      generalize writeTo origin _ s = r at this ⊢
      exact this
    | some tr =>
      obtain ⟨t, tsize, fix⟩ := tr
      dsimp only
      split
      · next hacc =>
        have hfix : (writeTo t fix s).1.mem q = s.mem q := by
          simp only [trampolineAccepts, Bool.and_eq_true, Bool.not_eq_true', decide_eq_false_iff_not] at hacc
          exact write_frame t fix s q (fun j hj e => ht t tsize fix rfl ⟨j, by omega, e⟩)
        generalize writeTo t fix s = r1 at hfix ⊢
        obtain ⟨s1, o1⟩ := r1
        dsimp only
        split
        · have := hentry s1
          generalize writeTo origin _ s1 = r at this ⊢
          exact this.trans hfix
        · exact hfix
      · rfl

/-- `Unpatch` writes back 13 bytes at the entry: same frame. -/
theorem unpatch_touches_only (origin : Addr) (originBytes : List Byte) (s : State) (q : Addr)
    (hq : ¬ InRange origin originBytes.length q) : (unpatch origin originBytes s).1.mem q = s.mem q := by
  rw [unpatch]
  exact write_frame origin originBytes s q (fun j hj e => hq ⟨j, hj, e⟩)

/-- **removing a mock restores the exact bytes**: if `originBytes` are the bytes that were at the entry before (what
    `checkAndReadOriginBytes` read, jumpdata.go:66) then after `Apply` followed by `Unpatch` the whole memory is what it
    was, and the touched pages are r-x. -/
theorem unpatch_restores (origin to : Addr) (funcSize : Nat) (s : State) (originBytes : List Byte)
    (hsz : 13 < funcSize) (hlen : originBytes.length = 13)
    (hob : ∀ j (hj : j < originBytes.length), originBytes[j] = s.mem (origin + BitVec.ofNat 64 j))
    (h : NoWrap origin 13) (hm : MappedAll s (pages origin 13)) (hd : s.denyWX = false) :
    ∃ s1, install origin to funcSize none s = (s1, InstallRes.done Outcome.ok) ∧
      (unpatch origin originBytes s1).2 = Outcome.ok ∧ (unpatch origin originBytes s1).1.mem = s.mem := by
  have hjl := jump_len origin to
  have hw := writeTo_ok (data := Gen.Amd64.jmpToFunctionValue origin to) (hjl.symm ▸ h) (hjl.symm ▸ hm) hd
  refine ⟨written origin (Gen.Amd64.jmpToFunctionValue origin to) s, ?_, ?_⟩
  · rw [install, genJumpData_eq, if_neg (Nat.not_le_of_lt hsz)]
    simp only [hw]
  -- the second write finds the same pages, now r-x, and the policy unchanged
  have hm1 : MappedAll (written origin (Gen.Amd64.jmpToFunctionValue origin to) s) (pages origin originBytes.length) := by
    rw [hlen, ← hjl]; exact mappedAll_written
  rw [unpatch, writeTo_ok (hlen.symm ▸ h) hm1 hd]
  exact ⟨rfl, written_restore (hlen.trans hjl.symm) (hlen.symm ▸ h) hob⟩

/-- the same for the bytes goom really saves, `RawRead(origin, len(jumpData))` (`checkAndReadOriginBytes`, called from
    `replaceFunc` with the jump's length): they are 13 bytes, so
    `Unpatch` writes exactly the entry jump's extent (`unpatch_touches_only`) and restores memory. -/
theorem unpatch_restores_saved (origin to : Addr) (funcSize : Nat) (s : State) (hsz : 13 < funcSize)
    (h : NoWrap origin 13) (hm : MappedAll s (pages origin 13)) (hd : s.denyWX = false) :
    (savedOriginBytes s origin to).length = 13 ∧
    ∃ s1, install origin to funcSize none s = (s1, InstallRes.done Outcome.ok) ∧
      (unpatch origin (savedOriginBytes s origin to) s1).2 = Outcome.ok ∧
      (unpatch origin (savedOriginBytes s origin to) s1).1.mem = s.mem := by
  have hlen : (savedOriginBytes s origin to).length = 13 := (length_readBytes ..).trans (jump_len origin to)
  exact ⟨hlen, unpatch_restores origin to funcSize s _ hsz hlen (fun j hj => getElem_readBytes s origin _ j hj) h hm hd⟩

/-- the hypotheses of `unpatch_restores` hold for a 32-byte function of INT3 at 0x401fe0 in an all-r-x image -/
example : ∃ (s : State) (ob : List Byte), ob.length = 13 ∧
    (∀ j (hj : j < ob.length), ob[j] = s.mem (0x401fe0#64 + BitVec.ofNat 64 j)) ∧
    NoWrap 0x401fe0#64 13 ∧ MappedAll s (pages 0x401fe0#64 13) :=
  ⟨{ mem := fun _ => 0xcc#8, perm := fun _ => some RX }, List.replicate 13 (0xcc#8), by simp,
    fun j hj => by simp only [List.getElem_replicate], by unfold NoWrap; decide, fun _ _ => rfl⟩

/-- the hypotheses of `install_touches_only` are satisfiable: a 32-byte function at 0x401fe0 with a neighbour starting
    at 0x402000 — the neighbour's first byte is outside the written range. -/
example : ¬ InRange 0x401fe0#64 (min 13 32) 0x402000#64 := by
  rintro ⟨j, hj, e⟩
  have := congrArg BitVec.toNat e
  simp only [BitVec.toNat_add, BitVec.toNat_ofNat] at this
  omega

/-! ## histories: any sequence of Patch / Apply / Unpatch / Restore / Unpatch(fn) / UnpatchAll over several targets,
      with the environment unmapping pages in between (Model/MemHist.lean)

`LOK L`: every 13-byte entry lies in one page (function entries are 16/32-byte aligned).  `GOK L h`: the guards the caller
holds belong to their targets and hold 13+13 bytes — true of the empty initial state and preserved (`hist_guards`). -/

open C14HL in
/-- **only entry bytes, after any history**: whatever sequence of installs, removals, re-installs, `Restore`s and
    `UnpatchAll`s ran — including operations that panicked because a target's memory had been unmapped — a byte outside
    the 13 entry bytes of the targets is unchanged. -/
theorem hist_frame (L : Layout) (hL : LOK L) (h : HState) (hG : GOK L h) (ops : List HOp) (q : Addr)
    (hq : ∀ i j, j < 13 → q ≠ L.org i + BitVec.ofNat 64 j) : (hrun L h ops).m.mem q = h.m.mem q :=
  hrun_along (frame_along L (fun _ => True)) ops (fun _ _ _ _ => True.intro) h hG q (fun i _ => hq i)

open C14HL in
/-- **no image page left writable, after any history**: for any set `img` of pages none of which was writable before,
    none is writable afterwards — on every path, also when an operation in the middle (e.g. `UnpatchAll` reaching a target
    in unmapped memory) panicked, with or without a W^X policy.  Every page ends with the protection it had, or r-x, or
    unmapped by the environment. -/
theorem hist_no_image_page_left_writable (L : Layout) (hL : LOK L) (h : HState) (hG : GOK L h) (ops : List HOp)
    (img : Addr → Prop) (hnw : ∀ p pr, img p → h.m.perm p = some pr → pr.w = false) :
    ∀ p pr, img p → (hrun L h ops).m.perm p = some pr → pr.w = false := by
  intro p pr hi hp
  rcases hrun_along (perm_along L hL (fun _ => True)) ops (fun _ _ _ _ => True.intro) h hG p with e | e | e
  · rw [e] at hp; exact hnw p pr hi hp
  · rw [e] at hp; cases hp; rfl
  · rw [e] at hp; cases hp

open C14HL in
/-- **the saved bytes are always 13**: after any history every guard still belongs to its target and holds 13 original and
    13 jump bytes, so no later `Unpatch`/`Restore` can write beyond the entry jump. -/
theorem hist_guards (L : Layout) (hL : LOK L) (h : HState) (hG : GOK L h) (ops : List HOp) : GOK L (hrun L h ops) :=
  hrun_inv L (GOK L) (fun h op hG => hstep_gok L h hG op) ops h hG

open C14HL in
/-- **an operation on one target writes only at that target's entry**: `Patch`/`Ptr`, `Apply`, `Unpatch`, `Restore` and
    `Unpatch(fn)` of target `i` — also of a target that carries no patch, and whatever other targets are mocked at the time —
    leave every byte outside `[org i, org i + 13)` unchanged; in particular no other target's mock is installed or removed. -/
theorem step_writes_only_own_entry (L : Layout) (h : HState) (hG : GOK L h) (op : HOp) (i : Nat)
    (ht : op.target = some i) (q : Addr) (hq : ∀ j, j < 13 → q ≠ L.org i + BitVec.ofNat 64 j) :
    (hstep L h op).1.m.mem q = h.m.mem q := by
  have hT : ∀ k, op.target = some k ∨ op = .unpatchAll → k = i := by
    intro k hk
    rcases hk with hk | rfl
    · exact Option.some.inj (hk.symm.trans ht)
    · cases ht
  exact hstep_along (frame_along L (· = i)) hG op hT q (fun k hk => hk ▸ hq)

open C14HL in
/-- **too short stays refused**: a target whose scanned size is ≤ 13 never obtains a guard, however often `Patch` is
    retried and whatever happens in between (a refused attempt stays registered: `replaceFunc` enters the patch in `patches` before its tests — that must not turn a
    later attempt into an acceptance); so nothing is ever written at its entry by `Apply`/`Unpatch`/`Restore`/`UnpatchAll`. -/
theorem hist_short_never_patched (L : Layout) (i : Nat) (hs : L.fsz i ≤ 13) (h : HState) (hn : h.slots i = none)
    (ops : List HOp) : (hrun L h ops).slots i = none :=
  hrun_inv L (fun h => h.slots i = none) (fun h op hn => hstep_short L h i hs hn op) ops h hn

/-- … and every single attempt is refused (or aborted by a panicking removal of the stale registration), never accepted -/
theorem short_patch_never_ok (L : Layout) (i : Nat) (hs : L.fsz i ≤ 13) (h : HState) :
    (hstep L h (.patch i)).2 ≠ HRes.ok := by
  simp only [hstep]
  split
  · intro e; cases e
  · rw [patchAfter, genJumpData_eq, if_pos hs]
    intro e; cases e

/-- non-vacuity for the three theorems above: a 9-byte target (8 code + 1 padding) next to an ordinary one, after a first
    refused attempt (stale registration in the table) -/
example : ∃ (L : Layout) (h : HState), L.fsz 0 ≤ 13 ∧ h.slots 0 = none ∧ h.table = [(0, false)] ∧ C14HL.GOK L h ∧
    (HOp.unpatchFn 1).target = some 1 :=
  ⟨{ org := fun i => if i = 0 then 0x7f0000001000#64 else 0x401fe0#64, fsz := fun i => if i = 0 then 9 else 64, to := 0xc000001000#64 },
   { m := { mem := fun _ => 0xcc#8, perm := fun _ => some RX }, slots := fun _ => none, table := [(0, false)] },
   by decide, rfl, rfl, (fun _ _ hs => by simp at hs), rfl⟩

/-- non-vacuity: two targets 32 bytes apart in a text page, a third in separately mapped code; the empty initial
    state; a history that patches all three, applies them, loses the third's memory and calls `UnpatchAll` -/
example : ∃ (L : Layout) (h : HState) (ops : List HOp), C14HL.LOK L ∧ C14HL.GOK L h ∧ ops.length = 8 :=
  ⟨{ org := fun i => if i = 0 then 0x401fc0#64 else if i = 1 then 0x401fe0#64 else 0x7f0000000000#64, fsz := fun _ => 64,
     to := 0xc000001000#64 },
   { m := { mem := fun _ => 0xcc#8, perm := fun _ => some RX }, slots := fun _ => none, table := [] },
   [.patch 0, .apply 0, .patch 1, .apply 1, .patch 2, .apply 2, .unmap 0x7f0000000000#64, .unpatchAll],
   by
     intro i
     by_cases h0 : i = 0
     · subst h0; exact ⟨by unfold C14L.NoWrap; decide, 0x401000#64, by decide⟩
     · by_cases h1 : i = 1
       · subst h1; exact ⟨by unfold C14L.NoWrap; decide, 0x401000#64, by decide⟩
       · simp only [h0, h1, if_false]; exact ⟨by unfold C14L.NoWrap; decide, 0x7f0000000000#64, by decide⟩,
   (fun _ _ hs => by simp at hs), rfl⟩

end C14
