import GoomVerif.Model.X86Dec
/-! Test vectors of `X86Dec.decode`: the complete result on the byte strings that `Props/C16.lean` and
    `Findings/C16OpcodeZero.lean` quote. -/
namespace C16L
open X86Dec

/-- One declaration for all vectors: every `decode` run starts at the root of the table program, an `xCondByte` at pc 1 with
    some 240 entries, and every table read walks a 256-element list (`Gen.X86.tbl?`); inside one declaration the kernel
    computes each table entry once for all vectors. -/
theorem decode_vectors :
    decode [0x90#8] = { err := .ok, len := 1, op := 338, opcode := 0x90000000 } ∧                       -- NOP
    decode [0x48#8, 0x8b] = { err := .ok, len := 1 } ∧                                                  -- MOV cut after the opcode
    decode [0xe8#8, 0, 0, 0, 0] = { err := .ok, len := 5, op := 37, pcrel := 4, pcreloff := 1, opcode := 0xe8000000 } ∧  -- CALL rel32
    decode [0x74#8, 0x10] = { err := .ok, len := 2, op := 234, pcrel := 1, pcreloff := 1, opcode := 0x74000000 } ∧     -- JE rel8
    decode [0x48#8, 0x8b, 0x05, 1, 0, 0, 0] =                                                           -- MOV RAX, [RIP+1]
      { err := .ok, len := 7, op := 290, pcrel := 4, pcreloff := 3, opcode := 0x8b050000 } ∧
    decode [0x66#8, 0x0f, 0x38, 0x00, 0x05, 1, 0, 0, 0] =                                               -- PSHUFB XMM0, [RIP+1]
      { err := .ok, len := 9, op := 446, pcrel := 4, pcreloff := 5, opcode := 0x0f380005 } ∧
    decode [0x66#8, 0x0f, 0x38, 0xdc, 0xc0] = { err := .ok, len := 5, op := 15, opcode := 0x0f38dcc0 } ∧ -- AESENC XMM0, XMM0
    decode [0x48, 0x89, 0xe5, 0xc3] = { err := .ok, len := 3, op := 290, opcode := 0x89e50000 } ∧       -- MOV RBP, RSP (then RET)
    decode [0x00#8, 0x00] = { err := .ok, len := 2, op := 6 } := by                                      -- ADD [RAX], AL
  decide +kernel

end C16L
