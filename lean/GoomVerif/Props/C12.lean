import GoomVerif.Model.ApiC12
import GoomVerif.Model.LwwC12
import GoomVerif.Lemmas.C12L
/-! Property C12 — within a builder the most recent instruction for a target wins.

`C12M.run fixed` is the model of goom's builder / cache / mocker code (Model/ApiC12.lean), `C12M.Lww.run` the
last-writer-wins reference (Model/LwwC12.lean).  Histories are arbitrary lists of
`Op` = Pkg | Reset | Struct(..).Method(<unknown>) | ExportFunc("") | a lookup issued from the helper package |
(Func / Struct.Method / Interface.Method / ExportFunc / ExportStruct.Method / Var / UnExportedVar lookup followed by
look | Apply k (Set k) | Return | When | When..Return | Returns | Cancel) | a lookup whose handle is kept in a register |
an instruction through a kept handle; the builder is created in any of the three packages; after every op every
target is called twice (variables are read). -/
namespace C12
open C12M

/-- **The full statement** (all clauses at once, "through any of those handles" included): for every creating
    package and every history the behaviour of every target after every step equals the last-writer-wins reference.
    It does NOT hold: an instruction through a handle whose mocker was cancelled and has since been replaced in the
    builder's cache re-installs the stale mocker, and later instructions through the live handle only mutate a When
    that is no longer installed (Findings/C12Stale.lean `stale_handle_breaks_lww`, known finding `stale-handle`); and
    Cancel through one method of a two-method interface variable restores the whole variable, reverting the other
    method's configuration (`iface_cancel_one_method_history`, known finding `iface-cancel-one-method`). -/
def RefinesAll : Prop :=
  ∀ (p : Pkg) (ops : List Op), behRows (run fixed (initP p) ops) = Lww.run (Lww.initP p) ops

/-- **Refinement, partial**: the full statement under the decidable hypothesis `histLive` — every instruction
    (other than `look`) that goes through a kept handle finds that handle's mocker still the live (cached, not
    cancelled) mocker of its target.  Then, for every creating package and every history, the behaviour of every target
    after every step equals the reference: a later Apply supersedes earlier stubs, a later Return/When after an Apply
    supersedes the callback (with a fresh configuration), stub instructions given through repeated lookups or kept
    handles accumulate, Cancel and Reset restore the original, variables hold the last Set value and get their value
    back, a Pkg override is used by exactly the next lookup and names then resolve in the package that issued it.
    The hypothesis also excludes every op that addresses the two-method interface variable (`opI2`).
    Missing w.r.t. `RefinesAll`: histories that use a stale handle, histories that address the two-method interface
    variable (its model is tied to the code by the differential run only). -/
theorem refines_lww_partial (p : Pkg) (ops : List Op) (h : histLive fixed (initP p) ops = true) :
    behRows (run fixed (initP p) ops) = Lww.run (Lww.initP p) ops :=
  (hist_sim ops _ _ (inv_initP p) h).1

set_option maxRecDepth 16384 in
/-- the hypothesis of `refines_lww_partial` is met by a history that keeps handles and uses them while live
    (`h0 := Func(fA); h0.Return(1); h1 := Func(fA); h1.Apply(k2); h0.Return(3)`), and it is NOT met by the
    first six ops of the stale-handle history of Findings/C12Stale.lean -/
example : histLive fixed (initP .p0) [.keep 0 (.fn false), .on 0 (.stub (.ret 1)), .keep 1 (.fn false), .on 1 (.apply 2),
      .on 0 (.stub (.ret 3))] = true
    ∧ histLive fixed (initP .p0) [.keep 0 (.fn false), .on 0 (.stub (.ret 1)), .on 0 .cancel, .keep 1 (.fn false),
      .on 1 (.stub (.ret 3)), .on 0 (.stub (.ret 2))] = false := by decide +kernel

/-- **Refinement, every instruction preceded by its own lookup** (no kept handles, single-method interface variable):
    no hypothesis on the state — `histLive` holds for every history without `on` ops and without ops on the two-method
    interface variable. -/
theorem refines_lww (p : Pkg) (ops : List Op) (h : ∀ op ∈ ops, isOn op = false ∧ opI2 op = false) :
    behRows (run fixed (initP p) ops) = Lww.run (Lww.initP p) ops :=
  refines_lww_partial p ops (histLive_of_no_on ops _ h)
where
  histLive_of_no_on (ops : List Op) : ∀ (s : State), (∀ op ∈ ops, isOn op = false ∧ opI2 op = false) → histLive fixed s ops = true := by
    induction ops with
    | nil => intro s _; rfl
    | cons op rest ih =>
      intro s h
      rw [histLive_cons, Bool.and_eq_true]
      exact ⟨opLive_of_not_on s (h op List.mem_cons_self).1 (h op List.mem_cons_self).2,
        ih _ (fun o ho => h o (List.mem_cons_of_mem _ ho))⟩

/-- Every state reached by a history whose kept-handle uses are live is well-formed, related to the reference state and
    has its registers known to the reference (so the hypotheses of the state-level theorems below are met by every
    such reachable state). -/
theorem reachable_inv (p : Pkg) (ops : List Op) (h : histLive fixed (initP p) ops = true) :
    Inv (exec fixed (initP p) ops) (Lww.exec (Lww.initP p) ops) :=
  (hist_sim ops _ _ (inv_initP p) h).2

/-- **A repeated lookup continues the existing configuration.**  If the target of the lookup has a live (cached, not
    cancelled) mocker, the lookup returns that very mocker and changes neither any mocker nor what is installed. -/
theorem lookup_continues (s : State) (hw : WF s) (hd : Handle) (hn : isI2H hd = false) (mid : Nat)
    (h : live s (tgtOf s.b.pkg hd) = some mid) :
    (lookup s hd).2 = mid ∧ (lookup s hd).1.mks = s.mks ∧ (lookup s hd).1.inst = s.inst := by
  rcases lookup_ok s hd hw hn with ⟨_, _, hinst, _, _, ⟨hl, S⟩ | ⟨hl, _⟩⟩
  · rw [h] at hl; exact ⟨(Option.some.inj hl).symm, S.mks, hinst⟩
  · rw [h] at hl; cases hl

set_option maxRecDepth 8192 in
/-- the hypotheses of `lookup_continues` are met by a non-trivial reachable state: after `Func(fA).Return(1)` the
    mocker 0 is live for fA and owns a When -/
example : live (exec fixed init [.h (.fn false) (.stub (.ret 1))]) (tgtOf .p0 (.fn false)) = some 0
    ∧ ((exec fixed init [.h (.fn false) (.stub (.ret 1))]).mks 0).when.isSome = true := by decide +kernel

/-- **…unless it was cancelled.**  If the target has no live mocker (never looked up, or cancelled by Cancel/Reset),
    the lookup yields a brand-new mocker — no When, not cancelled, nothing installed through it — which becomes the
    live one; what is installed does not change. -/
theorem lookup_after_cancel (s : State) (hw : WF s) (hd : Handle) (hn : isI2H hd = false)
    (h : live s (tgtOf s.b.pkg hd) = none) :
    (lookup s hd).2 = s.next ∧ ((lookup s hd).1.mks (lookup s hd).2).when = none ∧
    ((lookup s hd).1.mks (lookup s hd).2).guard = false ∧
    live (lookup s hd).1 (tgtOf s.b.pkg hd) = some (lookup s hd).2 ∧ (lookup s hd).1.inst = s.inst := by
  have lk := lookup_ok s hd hw hn
  have hlive := lk.live
  rcases lk with ⟨_, _, hinst, _, _, ⟨hl, _⟩ | ⟨_, hmid, _, hwhen, _, hguard, _⟩⟩
  · rw [h] at hl; cases hl
  · exact ⟨hmid, hwhen, hguard, hlive, hinst⟩

set_option maxRecDepth 8192 in
/-- a reachable state with a cancelled cached mocker: after `Func(fA).Apply(k1); Func(fA).Cancel()` -/
example : live (exec fixed init [.h (.fn false) (.apply 1), .h (.fn false) .cancel]) (tgtOf .p0 (.fn false)) = none
    ∧ slot (exec fixed init [.h (.fn false) (.apply 1), .h (.fn false) .cancel]) (.fn false) = some 0 := by decide +kernel

/-- **After Reset a fresh configuration starts from scratch.**  In every well-formed related state, Reset leaves every
    target original, no cached mocker live (so the next lookup of anything builds a new mocker, by
    `lookup_after_cancel`), and the reference in the all-original state. -/
theorem reset_fresh (s : State) (a : Lww) (hw : WF s) (hr : R s a) :
    (∀ t, (resetB s).inst t = .orig) ∧ (∀ t, live (resetB s) t = none) ∧
    WF (resetB s) ∧ R (resetB s) { a with beh := fun _ => .orig } := by
  obtain ⟨hw', hr', hdead, _⟩ := reset_sim hw hr
  exact ⟨fun t => ((rt_dead (hdead t)).mp (hr'.tgt t)).1, hdead, hw', hr'⟩

set_option maxRecDepth 8192 in
/-- a reachable state in which Reset has something to undo: a stub on a method and a callback on the interface method -/
example : (exec fixed init [.h (.st true) (.stub (.whenRet 1 5)), .h .im (.apply 2)]).inst (.st true) = .via 0
    ∧ (exec fixed init [.h (.st true) (.stub (.whenRet 1 5)), .h .im (.apply 2)]).inst .im = .cb 2 := by decide +kernel

/-- **A later Apply supersedes earlier When/Return stubs** — stated outright for every lookup kind (Func, Struct.Method,
    Interface.Method, ExportFunc, ExportStruct.Method): in every reachable state, whatever was configured before through
    any handle, after `lookup.Apply(k)` a call of the looked-up target (resolved in the package the builder currently
    names) with any argument runs callback `k`.  The only hypothesis besides reachability is that the name resolves
    (`isPhantom = false`: goom rejects an Apply on a name that resolves to nothing, covered by C10/C13) and that the
    handle is not the two-method interface variable (outside the proved part, see `refines_lww_partial`). -/
theorem apply_supersedes (s : State) (a : Lww) (hw : WF s) (hr : R s a) (hd : Handle) (k x : Nat)
    (hn : isI2H hd = false) (hp : isPhantom (tgtOf s.b.pkg hd) = false) :
    (call (step fixed s (.h hd (.apply k))).1 (tgtOf s.b.pkg hd) x).2 = .k k := by
  obtain ⟨hw1, hr1, _⟩ := step_sim hw hr (.h hd (.apply k)) (.inl rfl) hn
  rw [(call_sim hw1 hr1 _ x).1, lcall_cb x (lstep_h_beh a hd (.apply k) hr.pkg.symm hp)]

/-- **A later Return after an Apply supersedes the callback, with a fresh configuration**: in every reachable state
    with no `Pkg` override pending (`s.b.pkg = .p0`: both lookups then address the same target),
    after `lookup.Apply(k)` followed by `lookup.Return(v)` on the same function or method, every call returns `v` — the
    callback no longer runs and no stub configured before the Apply survives. -/
theorem return_after_apply_supersedes (s : State) (a : Lww) (hw : WF s) (hr : R s a) (hd : Handle) (k v x : Nat)
    (hn : isI2H hd = false) (hv : isVar (tgtOf s.b.pkg hd) = false) (hp : isPhantom (tgtOf s.b.pkg hd) = false)
    (hpk : s.b.pkg = .p0) :
    (call (step fixed (step fixed s (.h hd (.apply k))).1 (.h hd (.stub (.ret v)))).1 (tgtOf s.b.pkg hd) x).2 = .v v := by
  obtain ⟨hw1, hr1, _⟩ := step_sim hw hr (.h hd (.apply k)) (.inl rfl) hn
  obtain ⟨hw2, hr2, _⟩ := step_sim hw1 hr1 (.h hd (.stub (.ret v))) (.inl rfl) hn
  have hap : a.pkg = .p0 := hr.pkg.symm.trans hpk
  rw [hpk] at hp hv ⊢
  have hrej : Lww.rejected (tgtOf .p0 hd) (.stub (.ret v)) = false := by simp only [Lww.rejected, hp, hv, Bool.or_false]
  -- in the reference Apply leaves `cb k`, and a stub instruction on `cb k` starts a fresh When
  have h2 := lstep_h_beh (a.step (.h hd (.apply k))) hd (.stub (.ret v)) (lstep_h_pkg ..) hrej
  rw [lstep_h_beh a hd (.apply k) hap hp] at h2
  rw [(call_sim hw2 hr2 _ x).1, lcall_stub x h2]
  rfl

/-- **Asking again for the mocker continues the existing configuration instead of discarding it**: in every
    reachable state with no `Pkg` override pending (`s.b.pkg = .p0`), after Reset, `lookup.When(1).Return(5)` followed by a second lookup of the same function or method
    and `.When(2).Return(6)` leaves BOTH conditions in force — a call with argument 1 returns 5, a call with argument 2
    returns 6, and any other argument finds no condition and no default (goom's "there is no suitable condition" panic). -/
theorem repeated_lookup_accumulates (s : State) (a : Lww) (hw : WF s) (hr : R s a) (hd : Handle) (x : Nat)
    (hn : isI2H hd = false) (hv : isVar (tgtOf s.b.pkg hd) = false) (hp : isPhantom (tgtOf s.b.pkg hd) = false)
    (hpk : s.b.pkg = .p0) (hx : x ≠ 1 ∧ x ≠ 2) :
    let s3 := (step fixed (step fixed (step fixed s .reset).1 (.h hd (.stub (.whenRet 1 5)))).1 (.h hd (.stub (.whenRet 2 6)))).1
    (call s3 (tgtOf s.b.pkg hd) 1).2 = .v 5 ∧ (call s3 (tgtOf s.b.pkg hd) 2).2 = .v 6 ∧ (call s3 (tgtOf s.b.pkg hd) x).2 = .p := by
  intro s3
  obtain ⟨hw1, hr1, _⟩ := step_sim hw hr .reset (.inl rfl)
  obtain ⟨hw2, hr2, _⟩ := step_sim hw1 hr1 (.h hd (.stub (.whenRet 1 5))) (.inl rfl) hn
  obtain ⟨hw3, hr3, _⟩ := step_sim hw2 hr2 (.h hd (.stub (.whenRet 2 6))) (.inl rfl) hn
  have hap : (a.step .reset).pkg = .p0 := hr.pkg.symm.trans hpk
  rw [hpk] at hp hv ⊢
  have hrej : ∀ st, Lww.rejected (tgtOf .p0 hd) (.stub st) = false := fun st => by simp only [Lww.rejected, hp, hv, Bool.or_false]
  have h2 := lstep_h_beh ((a.step .reset).step (.h hd (.stub (.whenRet 1 5)))) hd (.stub (.whenRet 2 6)) (lstep_h_pkg ..) (hrej _)
  rw [lstep_h_beh (a.step .reset) hd (.stub (.whenRet 1 5)) hap (hrej _)] at h2
  refine ⟨?_, ?_, ?_⟩
  · rw [(call_sim hw3 hr3 _ 1).1, lcall_stub 1 h2]
    show (((When.fresh (.whenRet 1 5)).step (.whenRet 2 6)).invoke 1).2 = .v 5
    decide
  · rw [(call_sim hw3 hr3 _ 2).1, lcall_stub 2 h2]
    show (((When.fresh (.whenRet 1 5)).step (.whenRet 2 6)).invoke 2).2 = .v 6
    decide
  · rw [(call_sim hw3 hr3 _ x).1, lcall_stub x h2]
    have h1 : (1 == x) = false := by rw [beq_eq_false_iff_ne]; exact fun h => hx.1 h.symm
    have h2 : (2 == x) = false := by rw [beq_eq_false_iff_ne]; exact fun h => hx.2 h.symm
    simp [When.fresh, When.create, When.step, When.when_, When.ret, When.newMatcher, When.addResult,
      When.invoke, When.matchesArg, List.find?, h1, h2]

set_option maxRecDepth 8192 in
/-- the hypotheses of `apply_supersedes` / `return_after_apply_supersedes` are met by a reachable state that already
    carries a conditional stub on the target (`Struct(T).Method(M).When(1).Return(5)`), and the conclusion is not the
    trivial one: before the Apply a call with argument 1 returns 5 -/
example : isPhantom (tgtOf (exec fixed init [.h (.st true) (.stub (.whenRet 1 5))]).b.pkg (.st true)) = false
    ∧ (call (exec fixed init [.h (.st true) (.stub (.whenRet 1 5))]) (.st true) 1).2 = .v 5
    ∧ (call (step fixed (exec fixed init [.h (.st true) (.stub (.whenRet 1 5))]) (.h (.st true) (.apply 2))).1 (.st true) 1).2 = .k 2 := by
  decide +kernel

set_option maxRecDepth 8192 in
/-- `repeated_lookup_accumulates` on a concrete reachable state (a callback was installed before the Reset) -/
example : (call (exec fixed init [.h (.fn false) (.apply 3), .reset, .h (.fn false) (.stub (.whenRet 1 5)),
      .h (.fn false) (.stub (.whenRet 2 6))]) (.fn false) 2).2 = .v 6
    ∧ (exec fixed init [.h (.fn false) (.apply 3)]).b.pkg = .p0 := by decide +kernel

/-- the package a lookup op is issued from (`none`: the op performs no lookup) -/
def callerOf : Op → Option Pkg
  | .h _ _ => some .p0
  | .keep _ _ => some .p0
  | .stBad => some .p0
  | .qlook => some .pq
  | _ => none

/-- **A Pkg override applies to the next lookup only.**  Whatever package was set, after any op that performs a
    lookup (Func, Struct, Interface, ExportFunc, ExportStruct, Var, UnExportedVar — directly, kept in a register, or
    with a following instruction that panics) the builder's package is the package that ISSUED the lookup: the test
    package for its own lookups, the helper package for a lookup made there. -/
theorem pkg_one_shot (s : State) (p : Pkg) (op : Op) (c : Pkg) (h : callerOf op = some c) :
    (step fixed (step fixed s (.pkg p)).1 op).1.b.pkg = c := by
  cases op with
  | pkg q | reset | xfEmpty | on r ins => cases h
  | stBad | qlook => cases h; rfl
  | h hd ins => cases h; rw [step_h_fst, instr_pkg]; exact lookup_resets_pkg _ hd
  | keep r hd => cases h; exact lookup_resets_pkg _ hd
where
  lookup_resets_pkg (s : State) (hd : Handle) : (lookup s hd).1.b.pkg = .p0 := by
    have hi : (ifaceLookup s).1.b.pkg = .p0 := by
      unfold ifaceLookup; split
      · split <;> rfl
      · rfl
    have hi' : (iface2Lookup s).1.b.pkg = .p0 := by
      unfold iface2Lookup; split
      · split <;> rfl
      · rfl
    cases hd with
    | fn i | xf n | vr i | st i | xs => simp only [lookup]; split <;> rfl
    | im => simp only [lookup]; split <;> exact hi
    | i2 j => simp only [lookup]; split <;> exact hi'

/-- …while an op that performs no lookup — the rejected `ExportFunc("")`, an instruction through a kept handle — leaves
    the override pending. -/
theorem pkg_pending (s : State) (p : Pkg) (op : Op) (h : op = .xfEmpty ∨ ∃ r ins, op = .on r ins) :
    (step fixed (step fixed s (.pkg p)).1 op).1.b.pkg = p := by
  rcases h with rfl | ⟨r, ins, rfl⟩
  · rfl
  · cases hreg : (step fixed s (.pkg p)).1.regs r with
    | none => simp only [step] at hreg ⊢; simp only [hreg]; rfl
    | some mid => rw [step_on_fst _ _ _ _ _ hreg, instr_pkg]; rfl

/-- …and the override is really used by that next lookup, for every pair of lookup kinds (Func, Struct.Method,
    Interface.Method, ExportFunc, ExportStruct.Method, Var, UnExportedVar), whether the lookups hit the cache or not: in
    every reachable state, after `Pkg(p)` the lookup `hd1` yields the mocker of `hd1`'s target in package `p`, and the
    lookup `hd2` after it the mocker of `hd2`'s target in the caller's package. -/
theorem pkg_used_once (s : State) (a : Lww) (hw : WF s) (hr : R s a) (p : Pkg) (hd1 hd2 : Handle) (ins : Instr)
    (hn1 : isI2H hd1 = false) (hn2 : isI2H hd2 = false) :
    let s1 := (step fixed s (.pkg p)).1
    let s2 := (step fixed s1 (.h hd1 ins)).1
    ((lookup s1 hd1).1.mks (lookup s1 hd1).2).tgt = tgtOf p hd1 ∧
    ((lookup s2 hd2).1.mks (lookup s2 hd2).2).tgt = tgtOf .p0 hd2 := by
  intro s1 s2
  obtain ⟨hw1, hr1, _⟩ := step_sim hw hr (.pkg p) (.inl rfl)
  obtain ⟨hw2, _, _⟩ := step_sim hw1 hr1 (.h hd1 ins) (.inl rfl) hn1
  have h1 := lookup_ok s1 hd1 hw1 hn1
  have h2 := lookup_ok s2 hd2 hw2 hn2
  have hp2 : s2.b.pkg = .p0 := pkg_one_shot s p (.h hd1 ins) .p0 rfl
  refine ⟨h1.1.slot_tgt _ _ (live_some.mp h1.live).1, ?_⟩
  have := h2.1.slot_tgt _ _ (live_some.mp h2.live).1
  rw [hp2] at this; exact this

/-- **Variables** ("…or variable continues the existing configuration"): in every reachable state, after
    `Var(&v).Set(k)` / `UnExportedVar(path).Set(k)` — first lookup or repeated — the variable holds k, whatever was
    set through earlier lookups; after Cancel through a lookup, or Reset, it holds its original value again. -/
theorem var_last_set_wins (s : State) (a : Lww) (hw : WF s) (hr : R s a) (i : Bool) (k x : Nat) :
    (call (step fixed s (.h (.vr i) (.apply k))).1 (.vr i) x).2 = .k k ∧
    (call (step fixed s (.h (.vr i) .cancel)).1 (.vr i) x).2 = .o ∧
    (call (step fixed s .reset).1 (.vr i) x).2 = .o := by
  refine ⟨?_, ?_, ?_⟩
  · exact apply_supersedes s a hw hr (.vr i) k x rfl rfl
  · obtain ⟨hw1, hr1, _⟩ := step_sim hw hr (.h (.vr i) .cancel) (.inl rfl)
    rw [(call_sim hw1 hr1 (.vr i) x).1]
    simp [Lww.step, Lww.onTgt, Lww.rejected, tgtOf, Lww.instr, Lww.call]
  · obtain ⟨hw1, hr1, _⟩ := step_sim hw hr .reset (.inl rfl)
    rw [(call_sim hw1 hr1 (.vr i) x).1]
    simp [Lww.step, Lww.call]

set_option maxRecDepth 8192 in
/-- a reachable state in which the variable already holds a mock value set through an earlier lookup -/
example : (exec fixed init [.h (.vr false) (.apply 1), .h (.vr true) (.apply 2)]).inst (.vr false) = .cb 1
    ∧ live (exec fixed init [.h (.vr false) (.apply 1), .h (.vr true) (.apply 2)]) (.vr true) = some 1 := by decide +kernel

end C12
