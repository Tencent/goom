import GoomVerif.Props.C10
/-!
# F14 (C10) — `ExposeFunction` used `funcAlignment` before it was initialised

Before the repair `subvert.go ExposeFunction` did not run `initAlignment.Do(initAlignmentFunc)`: as the first lookup of
a process it added the still-zero `funcAlignment`.  `exposeOld` is that code; with any non-zero slide (external
linking: `.text` starts 0x100 before `runtime.text`) the returned address is not the function's.  Not an obligation:
it documents why `Sym.step` models `expose` with the initialisation (the repaired code) and what the check reports
on the unrepaired code (`ext.as-linked.expose-first`).
-/
namespace C10F14
open Sym

/-- the unrepaired `ExposeFunction`: no `initAlign` -/
def exposeOld {N : Type} [DecidableEq N] (env : Env N) (s : St N) (n : N) : St N × Res :=
  (touch env s, resOf (funcSym env s n) s.fAlign)

/-- in the example process of `Props/C10.lean` (slide 0x100) `p.g` lives at 0x401180; the old code, called first,
    answers 0x401080 -/
theorem old_expose_first_is_off :
    (exposeOld C10.exEnv {} "p.g").2 = .ok 0x401080#64 ∧ resAfter C10.exEnv [] (.findFunc "p.g") = .ok 0x401180#64 := by
  decide +kernel

/-- … and answers correctly once any `FindFuncByName` has run -/
theorem old_expose_later_is_right :
    (exposeOld C10.exEnv (step C10.exEnv {} (.findFunc "p.f")).1 "p.g").2 = .ok 0x401180#64 := by
  decide +kernel

end C10F14
