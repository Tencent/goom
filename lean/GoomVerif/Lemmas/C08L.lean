import GoomVerif.Model.Var
/-!
`Base s a x`: `x` is the value variable `a` has *under* its mock — the origin saved by the mocker that currently
mocks it, or simply its content if nobody mocks it.  Under `Inv` the (repaired) code preserves it — Set and Apply only through
a mocker that is the `Owner` of its variable — except for the program's own assignment to an un-mocked variable;
Cancel/Reset make the content equal to it.
-/
namespace C08L
open Var

def MockedAt (s : State) (a i : Nat) : Prop := (s.mks i).mocked = true ∧ (s.mks i).addr = a

instance (s : State) (a i : Nat) : Decidable (MockedAt s a i) := inferInstanceAs (Decidable (_ ∧ _))

def Base (s : State) (a : Nat) (x : Boxed) : Prop :=
  (∀ i, MockedAt s a i → (s.mks i).origin = x) ∧ ((∀ i, ¬ MockedAt s a i) → (s.mem a).cur = x)

structure Inv (s : State) : Prop where
  fresh : ∀ i, s.n ≤ i → (s.mks i).mocked = false
  act : ∀ i, (s.mks i).mocked = true → (s.mks i).canceled = false
  allCached : ∀ i, i < s.n → s.cache (s.mks i).b (s.mks i).ue (s.mks i).addr = some i
  -- `ptrTyped` (every pointer-addressed mocker, mocked or not) is what makes a well-typed Set succeed; `typed` (every mocker
  -- that holds a mock, also one aimed by `reflect.NewAt`) is what makes Cancel reach its variable (`cancel_eq`)
  ptrTyped : ∀ i, i < s.n → (s.mks i).ue = false → (s.mks i).target = some (s.mem (s.mks i).addr).ty
  uniq : ∀ i j, (s.mks i).mocked = true → (s.mks j).mocked = true → (s.mks i).addr = (s.mks j).addr → i = j
  typed : ∀ i, (s.mks i).mocked = true → (s.mks i).target = some (s.mem (s.mks i).addr).ty
  cacheOK : ∀ b u c i, s.cache b u c = some i →
    i < s.n ∧ (s.mks i).b = b ∧ (s.mks i).ue = u ∧ (s.mks i).addr = c

def Owner (s : State) (i : Nat) : Prop :=
  i < s.n ∧
  ∀ j, j ≠ i → (s.mks j).mocked = true → (s.mks j).addr ≠ (s.mks i).addr

/-- values handed to an unexported-variable mocker have the variable's own type (anything else is documented as
    unpredictable) -/
def UeTyped (s : State) (i : Nat) (v : Boxed) : Prop :=
  (s.mks i).ue = true → ∀ x, v = some x → x.ty = (s.mem (s.mks i).addr).ty

/-- the discipline under which the restore theorems hold: one mocker per variable at a time -/
def Disc (s : State) : Op → Prop
  | .set i v => Owner s i ∧ UeTyped s i v
  | .apply i cb => Owner s i ∧ ∀ v, cbResult cb = .ok v → UeTyped s i v
  | _ => True

def Good (a : Nat) : State → List Op → Prop
  | _, [] => True
  | s, op :: rest => Disc s op ∧ (∀ v, op = .write a v → ∃ i, MockedAt s a i) ∧ Good a (step false s op).1 rest

/-- Resets are excluded here, see `restore_own_first_partial` -/
def KeepsMock (i : Nat) : Op → Prop
  | .cancel j => j ≠ i
  | .reset _ _ => False
  | _ => True

def Holds (s : State) (i a : Nat) (x : Boxed) : Prop :=
  i < s.n ∧ (s.mks i).mocked = true ∧ (s.mks i).origin = x ∧ (s.mks i).addr = a

instance (s : State) (i a : Nat) (x : Boxed) : Decidable (Holds s i a x) := inferInstanceAs (Decidable (_ ∧ _ ∧ _ ∧ _))

variable {s s' : State} {i j a b c : Nat} {ue : Bool} {x v : Boxed} {m' : Mocker} {ord : List (Bool × Nat)}

theorem Inv.lt (hI : Inv s) (h : (s.mks i).mocked = true) : i < s.n :=
  Nat.lt_of_not_le fun h' => Bool.noConfusion ((hI.fresh i h').symm.trans h)

/-- under the invariant, quantifiers over mockers need only range below `s.n` (so that they can be evaluated) -/
theorem Inv.owner (hI : Inv s) (hi : i < s.n)
    (h : ∀ j, j < s.n → j ≠ i → (s.mks j).mocked = true → (s.mks j).addr ≠ (s.mks i).addr) : Owner s i :=
  ⟨hi, fun j hj hm => h j (hI.lt hm) hj hm⟩

theorem Inv.forall_mockedAt (hI : Inv s) {P : Nat → Prop} (h : ∀ j, j < s.n → MockedAt s a j → P j) (j : Nat)
    (hj : MockedAt s a j) : P j := h j (hI.lt hj.1) hj

theorem init_not_mocked (mem : Nat → Cell) (a i : Nat) : ¬ MockedAt (init mem) a i := fun h => Bool.noConfusion h.1

theorem init_inv (mem : Nat → Cell) : Inv (init mem) :=
  ⟨fun _ _ => rfl, fun _ => Bool.noConfusion, fun _ h => absurd h (Nat.not_lt_zero _), fun _ h => absurd h (Nat.not_lt_zero _),
    fun _ _ => Bool.noConfusion, fun _ => Bool.noConfusion, fun _ _ _ _ h => nomatch h⟩

theorem Inv.congr (hI : Inv s) (h1 : ∀ a, (s'.mem a).ty = (s.mem a).ty) (h2 : s'.mks = s.mks) (h3 : s'.n = s.n)
    (h4 : s'.cache = s.cache) : Inv s' := by
  constructor
  · rw [h2, h3]; exact hI.fresh
  · rw [h2]; exact hI.act
  · rw [h2, h3, h4]; exact hI.allCached
  · intro i; rw [h2, h3, h1]; exact hI.ptrTyped i
  · rw [h2]; exact hI.uniq
  · intro i; rw [h2, h1]; exact hI.typed i
  · rw [h2, h3, h4]; exact hI.cacheOK

section upd
variable {α : Type} (f : Nat → α) (i : Nat) (x y : α)

@[simp] theorem upd_same : upd f i x i = x := if_pos rfl
theorem upd_other {f : Nat → α} {i j : Nat} {x : α} (h : j ≠ i) : upd f i x j = f j := if_neg h

theorem upd_upd : upd (upd f i x) i y = upd f i y := by
  funext j; unfold upd; split <;> rfl

theorem upd_self : upd f i (f i) = f := by
  funext j; unfold upd; split
  · next h => rw [h]
  · rfl

theorem upd_cur_ty {f : Nat → Cell} {a : Nat} {c : Boxed} (a' : Nat) :
    (upd f a { f a with cur := c } a').ty = (f a').ty := by
  unfold upd; split
  · next h => rw [h]
  · rfl

theorem upd_mocked {f : Nat → Mocker} {i j : Nat} {m : Mocker} (h : (upd f i m j).mocked = true)
    (hm : m.mocked = false) : j ≠ i ∧ upd f i m j = f j := by
  have hj : j ≠ i := fun e => by rw [e, upd_same, hm] at h; cases h
  exact ⟨hj, upd_other hj⟩

end upd

theorem inv_update (hI : Inv s) (hn : s'.n = s.n) (hc : s'.cache = s.cache) (hty : ∀ a, (s'.mem a).ty = (s.mem a).ty)
    (hm : s'.mks = upd s.mks i m')
    (hb : m'.b = (s.mks i).b) (hu : m'.ue = (s.mks i).ue) (ha : m'.addr = (s.mks i).addr)
    (htg : m'.ue = false → m'.target = (s.mks i).target)
    (hk : m'.mocked = true → m'.canceled = false ∧ Owner s i ∧ m'.target = some (s.mem (s.mks i).addr).ty) :
    Inv s' := by
  have oth : ∀ j, j ≠ i → s'.mks j = s.mks j := fun j hj => by rw [hm, upd_other hj]
  have self : s'.mks i = m' := by rw [hm, upd_same]
  have key : ∀ j, (s'.mks j).b = (s.mks j).b ∧ (s'.mks j).ue = (s.mks j).ue ∧ (s'.mks j).addr = (s.mks j).addr := by
    intro j; by_cases hj : j = i
    · rw [hj, self]; exact ⟨hb, hu, ha⟩
    · rw [oth j hj]; exact ⟨rfl, rfl, rfl⟩
  have old : ∀ j, (s'.mks j).mocked = true → j ≠ i → (s.mks j).mocked = true := fun j h hj => oth j hj ▸ h
  constructor
  · intro j hj
    rw [hn] at hj
    by_cases hji : j = i
    · rw [hji] at hj ⊢
      rw [self]; exact Bool.eq_false_iff.2 fun hmk => Nat.not_lt.2 hj (hk hmk).2.1.1
    · rw [oth j hji]; exact hI.fresh j hj
  · intro j hj
    by_cases hji : j = i
    · rw [hji, self] at hj ⊢; exact (hk hj).1
    · rw [oth j hji] at hj ⊢; exact hI.act j hj
  · intro j hj
    rw [(key j).1, (key j).2.1, (key j).2.2, hc]
    exact hI.allCached j (hn ▸ hj)
  · intro j hj hue
    rw [(key j).2.2, hty]
    by_cases hji : j = i
    · rw [hji, self] at hue ⊢; rw [htg hue]; exact hI.ptrTyped i (hn ▸ hji ▸ hj) (hu ▸ hue)
    · rw [oth j hji] at hue ⊢; exact hI.ptrTyped j (hn ▸ hj) hue
  · intro j k hj hk' hjk
    rw [(key j).2.2, (key k).2.2] at hjk
    by_cases hji : j = i <;> by_cases hki : k = i
    · rw [hji, hki]
    · rw [hji, self] at hj; rw [hji] at hjk
      exact absurd hjk.symm ((hk hj).2.1.2 k hki (old k hk' hki))
    · rw [hki, self] at hk'; rw [hki] at hjk
      exact absurd hjk ((hk hk').2.1.2 j hji (old j hj hji))
    · exact hI.uniq j k (old j hj hji) (old k hk' hki) hjk
  · intro j hj
    rw [(key j).2.2, hty]
    by_cases hji : j = i
    · rw [hji, self] at hj ⊢; exact (hk hj).2.2
    · rw [oth j hji] at hj ⊢; exact hI.typed j hj
  · intro b u c j hcj
    rw [hn, (key j).1, (key j).2.1, (key j).2.2]
    exact hI.cacheOK b u c j (hc ▸ hcj)

theorem Base.seen (hB : Base s a x) (hia : (s.mks i).addr = a)
    (h : (s.mks i).mocked = true ∨ ∀ j, j ≠ i → ¬ MockedAt s a j) :
    (if (s.mks i).mocked then (s.mks i).origin else (s.mem a).cur) = x := by
  cases hmk : (s.mks i).mocked with
  | true => exact hB.1 i ⟨hmk, hia⟩
  | false =>
    refine hB.2 fun j hj => ?_
    by_cases hji : j = i
    · rw [hji, MockedAt, hmk] at hj; exact Bool.noConfusion hj.1
    · exact h.elim (fun h => Bool.noConfusion (hmk.symm.trans h)) (fun h => h j hji hj)

/-- `hval`: the value `Base.seen` reads off mocker `i` is unchanged; `hsole`: if the `mocked` flag of `i` flips, `i` must be
    the only mocker `Base` ranges over at its address -/
theorem base_update (hm : s'.mks = upd s.mks i m') (ha : m'.addr = (s.mks i).addr) (hB : Base s a x)
    (hmem : a ≠ (s.mks i).addr → s'.mem a = s.mem a)
    (hsole : m'.mocked = (s.mks i).mocked ∨ ∀ j, j ≠ i → (s.mks j).mocked = true → (s.mks j).addr ≠ (s.mks i).addr)
    (hval : a = (s.mks i).addr → (if m'.mocked then m'.origin else (s'.mem a).cur) =
      if (s.mks i).mocked then (s.mks i).origin else (s.mem a).cur) :
    Base s' a x := by
  have oth : ∀ j, j ≠ i → (MockedAt s' a j ↔ MockedAt s a j) := fun j hj => by
    unfold MockedAt; rw [hm, upd_other hj]
  have self : MockedAt s' a i ↔ m'.mocked = true ∧ (s.mks i).addr = a := by
    unfold MockedAt; rw [hm, upd_same, ha]
  refine ⟨fun j hj => ?_, fun h => ?_⟩
  · by_cases hji : j = i
    · rw [hji] at hj ⊢
      obtain ⟨hm', haa⟩ := self.1 hj
      rw [hm, upd_same]
      refine ((if_pos hm').symm.trans (hval haa.symm)).trans (hB.seen haa ?_)
      exact hsole.imp (fun e => e.symm.trans hm') fun hs k hk hkm => hs k hk hkm.1 (hkm.2.trans haa.symm)
    · rw [hm, upd_other hji]; exact hB.1 j ((oth j hji).1 hj)
  · by_cases haa : a = (s.mks i).addr
    · have hm' : ¬ m'.mocked = true := fun e => h i (self.2 ⟨e, haa.symm⟩)
      refine ((if_neg hm').symm.trans (hval haa)).trans (hB.seen haa.symm ?_)
      exact .inr fun j hj hjm => h j ((oth j hj).2 hjm)
    · rw [hmem haa]
      exact hB.2 fun j hj => h j ((oth j fun e => haa (e ▸ hj.2).symm).2 hj)

theorem Holds.upd (h : Holds s i a x) (hn : s.n ≤ s'.n) (hm : s'.mks = upd s.mks j m')
    (hj : j = i → m'.mocked = true ∧ m'.origin = x ∧ m'.addr = a) : Holds s' i a x := by
  unfold Holds; rw [hm]
  refine ⟨Nat.lt_of_lt_of_le h.1 hn, ?_⟩
  by_cases e : i = j
  · rw [e, upd_same]; exact hj e.symm
  · rw [upd_other e]; exact h.2

theorem rset_some (x : Val) (t : Ty) (h : x.ty = t ∨ assignable x.ty t = true) : ∃ c, rset t (valueOf (some x)) = .ok c := by
  simp only [valueOf, rset]
  by_cases hty : x.ty = t
  · exact ⟨_, if_pos hty⟩
  · rw [if_neg hty]; exact ⟨_, if_pos (h.resolve_left hty)⟩

/-- `r` is what `doSet` through mocker `i` yields once `m.targetValue` is `T`: if `T` points at the variable and `reflect`
    accepts the value, the variable holds it and the mocker holds a mock; otherwise no variable is written (a mocker
    that holds no mock may have saved another origin) -/
def SetResult (s : State) (i : Nat) (T : Option Ty) (v : Boxed) (r : State × Outcome) : Prop :=
  let m := s.mks i
  let cell := s.mem m.addr
  (¬ (T = some cell.ty ∧ ∃ c, rset cell.ty (valueOf v) = .ok c) ∧ ∃ O o, o ≠ .ok ∧ (m.mocked = true → O = m.origin) ∧
    r = ({ s with mks := upd s.mks i { m with target := T, origin := O } }, o)) ∨
  (∃ c, T = some cell.ty ∧ rset cell.ty (valueOf v) = .ok c ∧
    r = ({ s with mem := upd s.mem m.addr { cell with cur := c },
                  mks := upd s.mks i { m with target := T, origin := if m.mocked then m.origin else cell.cur,
                                              mocked := true, canceled := false } }, .ok))

/-- ue_var.go sets `m.targetValue` (`reflect.NewAt`) before `doSet`; `T = m.target` is no change -/
theorem doSet_cases (s : State) (i : Nat) (T : Option Ty) (v : Boxed) :
    SetResult s i T v (doSet false { s with mks := upd s.mks i { (s.mks i) with target := T } } i v) := by
  unfold SetResult
  dsimp only
  cases T with
  | none => exact .inl ⟨(fun h => nomatch h.1), _, .panic .elemZeroValue, Outcome.noConfusion, fun _ => rfl,
      by simp only [doSet, upd_same]⟩
  | some t =>
    simp only [doSet, upd_same, upd_upd]
    generalize s.mks i = m
    generalize s.mem m.addr = cell
    by_cases hty : t = cell.ty
    · subst hty
      simp only [ne_eq, not_true_eq_false, if_false, Bool.false_or]
      cases hr : rset cell.ty (valueOf v) with
      | error p =>
        refine .inl ⟨(fun h => h.2.elim fun _ h => nomatch h), if m.mocked then m.origin else cell.cur, .panic p,
          Outcome.noConfusion, fun h => by rw [h]; rfl, ?_⟩
        cases m.mocked <;> rfl
      | ok c =>
        refine .inr ⟨c, trivial, rfl, ?_⟩
        cases m.mocked <;> rfl
    · exact .inl ⟨fun h => hty (Option.some.inj h.1), _, .undefined, Outcome.noConfusion, fun _ => rfl, if_pos hty⟩

theorem setOp_cases (s : State) (i : Nat) (v : Boxed) :
    ∃ T, ((s.mks i).ue = false ∨ v = none → T = (s.mks i).target) ∧
      ((s.mks i).ue = true → ∀ x, v = some x → T = some x.ty) ∧ SetResult s i T v (setOp false s i v) := by
  have self : ({ s with mks := upd s.mks i { (s.mks i) with target := (s.mks i).target } } : State) = s :=
    congrArg (fun f => { s with mks := f }) (upd_self s.mks i)
  rcases Bool.eq_false_or_eq_true (s.mks i).ue with hu | hu
  case inr =>
    refine ⟨(s.mks i).target, fun _ => rfl, fun h => Bool.noConfusion (hu.symm.trans h), ?_⟩
    have := doSet_cases s i (s.mks i).target v
    rw [self] at this
    simp only [setOp, hu]; exact this
  case inl =>
    cases v with
    | none =>
      refine ⟨(s.mks i).target, fun _ => rfl, (fun _ _ h => nomatch h), .inl ⟨(fun h => h.2.elim fun _ h => nomatch h),
        (s.mks i).origin, .panic .nilType, Outcome.noConfusion, fun _ => rfl, ?_⟩⟩
      rw [self]; simp only [setOp, hu]; rfl
    | some x =>
      refine ⟨some x.ty, fun h => h.elim (fun h => Bool.noConfusion (hu.symm.trans h)) (fun h => nomatch h),
        fun _ y hy => by cases hy; rfl, ?_⟩
      have e : setOp false s i (some x) = doSet false { s with mks := upd s.mks i { (s.mks i) with target := some x.ty } } i (some x) := by
        simp only [setOp, hu]; rfl
      exact e ▸ doSet_cases s i _ _

theorem setOp_inv (hI : Inv s) (hO : Owner s i) (hT : UeTyped s i v) : Inv (setOp false s i v).1 := by
  obtain ⟨T, hT1, hT2, ⟨_, O, o, _, _, h⟩ | ⟨c, hTy, _, h⟩⟩ := setOp_cases s i v
  · rw [h]
    refine inv_update hI rfl rfl (fun _ => rfl) rfl rfl rfl rfl (fun hu => hT1 (.inl hu)) fun hm => ⟨hI.act i hm, hO, ?_⟩
    rcases Bool.eq_false_or_eq_true (s.mks i).ue with hu | hu
    · cases v with
      | none => exact (hT1 (.inr rfl)).trans (hI.typed i hm)
      | some x => exact (hT2 hu x rfl).trans (congrArg some (hT hu x rfl))
    · exact (hT1 (.inl hu)).trans (hI.typed i hm)
  · rw [h]
    exact inv_update hI rfl rfl upd_cur_ty rfl rfl rfl rfl (fun hu => hT1 (.inl hu)) fun _ => ⟨rfl, hO, hTy⟩

theorem setOp_base (hO : Owner s i) (hB : Base s a x) : Base (setOp false s i v).1 a x := by
  obtain ⟨T, _, _, ⟨_, O, o, _, hO', h⟩ | ⟨c, _, _, h⟩⟩ := setOp_cases s i v
  · rw [h]
    refine base_update rfl rfl hB (fun _ => rfl) (.inl rfl) fun _ => ?_
    cases hm : (s.mks i).mocked with
    | false => rfl
    | true => exact hO' hm
  · rw [h]
    refine base_update rfl rfl hB upd_other (.inr hO.2) fun haa => ?_
    rw [haa]; rfl

theorem setOp_holds (h : Holds s i a x) : Holds (setOp false s j v).1 i a x := by
  obtain ⟨T, _, _, ⟨_, O, o, _, hO, e⟩ | ⟨c, _, _, e⟩⟩ := setOp_cases s j v
  · rw [e]
    exact h.upd (Nat.le_refl _) rfl fun ej => by subst ej; exact ⟨h.2.1, (hO h.2.1).trans h.2.2.1, h.2.2.2⟩
  · rw [e]
    refine h.upd (Nat.le_refl _) rfl fun ej => ?_
    subst ej; exact ⟨rfl, (if_pos h.2.1).trans h.2.2.1, h.2.2.2⟩

theorem applyOp_eq (s : State) (i : Nat) (cb : Cb) :
    applyOp false s i cb = match cbResult cb with
      | .error p => (s, .panic p)
      | .ok v => setOp false s i v := rfl

def cancelled (s : State) (i : Nat) : State :=
  { s with mem := upd s.mem (s.mks i).addr { (s.mem (s.mks i).addr) with
                    cur := if (s.mks i).mocked then (s.mks i).origin else (s.mem (s.mks i).addr).cur },
           mks := upd s.mks i { (s.mks i) with mocked := false, canceled := true } }

theorem cancel_unmocked (s : State) (i : Nat) (h : (s.mks i).mocked = false) :
    cancel false s i = ({ s with mks := upd s.mks i { (s.mks i) with canceled := true } }, .ok) := by
  simp only [cancel, h, Bool.false_eq_true, if_false]

theorem cancel_eq (s : State) (i : Nat)
    (h : (s.mks i).mocked = true → (s.mks i).target = some (s.mem (s.mks i).addr).ty) :
    cancel false s i = (cancelled s i, .ok) := by
  simp only [cancel, cancelled, Bool.false_eq_true, if_false]
  cases hm : (s.mks i).mocked with
  | false => simp only [Bool.false_eq_true, if_false]; rw [upd_self]
  | true => rw [h hm]; simp only [rset, ne_eq, not_true_eq_false, if_false, if_true]

theorem Inv.cancel_eq (hI : Inv s) (i : Nat) : cancel false s i = (cancelled s i, .ok) :=
  C08L.cancel_eq s i (hI.typed i)

/-- without `Inv.typed` a mocker may hold a mock and not be aimed at its variable: then `Cancel` changes nothing -/
theorem cancel_cases (s : State) (i : Nat) :
    (∃ o, o ≠ .ok ∧ cancel false s i = (s, o)) ∨ cancel false s i = (cancelled s i, .ok) := by
  by_cases h : (s.mks i).mocked = true → (s.mks i).target = some (s.mem (s.mks i).addr).ty
  · exact .inr (cancel_eq s i h)
  · obtain ⟨hm, ht⟩ := Classical.not_imp.1 h
    refine .inl ?_
    simp only [cancel, hm, Bool.false_eq_true, if_false, if_true]
    cases h : (s.mks i).target with
    | none => exact ⟨.panic .elemZeroValue, Outcome.noConfusion, rfl⟩
    | some t => exact ⟨.undefined, Outcome.noConfusion, if_pos fun e => ht (h.trans (congrArg some e))⟩

theorem cancelled_mks_self (s : State) (i : Nat) :
    (cancelled s i).mks i = { (s.mks i) with mocked := false, canceled := true } := upd_same ..

theorem cancelled_mks_other (s : State) (h : j ≠ i) : (cancelled s i).mks j = s.mks j := upd_other h

theorem cancelled_mockedAt (h : MockedAt (cancelled s i) a j) : j ≠ i ∧ MockedAt s a j := by
  obtain ⟨hj, e⟩ := upd_mocked h.1 rfl
  refine ⟨hj, ?_⟩
  unfold MockedAt; rw [← e]; exact h

theorem cancelled_mem (h : ¬ MockedAt s a i) : (cancelled s i).mem a = s.mem a := by
  by_cases ha : a = (s.mks i).addr
  · have hm : (s.mks i).mocked = false := Bool.eq_false_iff.2 fun e => h ⟨e, ha.symm⟩
    rw [cancelled, hm, ha]; exact upd_same ..
  · exact upd_other ha

theorem cancelled_inv (hI : Inv s) (i : Nat) : Inv (cancelled s i) :=
  inv_update hI rfl rfl upd_cur_ty rfl rfl rfl rfl (fun _ => rfl) Bool.noConfusion

theorem cancelled_base (hI : Inv s) (i : Nat) (hB : Base s a x) : Base (cancelled s i) a x := by
  refine base_update rfl rfl hB upd_other ?_ fun haa => ?_
  · cases hm : (s.mks i).mocked with
    | false => exact .inl rfl
    | true => exact .inr fun j hj hmj e => hj (hI.uniq j i hmj hm e)
  · subst haa; exact congrArg Cell.cur (upd_same ..)

theorem cancelled_restores (hB : Base s a x) (hi : ∀ j, MockedAt s a j → j = i) (hia : (s.mks i).addr = a) :
    ((cancelled s i).mem a).cur = x := by
  subst hia
  exact (congrArg Cell.cur (upd_same ..)).trans (hB.seen rfl (.inr fun j hji hj => hji (hi j hj)))

def lookFresh (s : State) (b : Nat) (ue : Bool) (c : Nat) : State :=
  { s with mks := upd s.mks s.n { b := b, ue := ue, addr := c, target := if ue then none else some (s.mem c).ty,
                                  origin := none, mocked := false, canceled := false },
           n := s.n + 1, ret := s.n, pkg := upd s.pkg b 0,
           cache := fun b' u' c' => if b' = b ∧ u' = ue ∧ c' = c then some s.n else s.cache b' u' c' }

theorem look_hit (h : s.cache b ue c = some i) : look false s b ue c = ({ s with ret := i, pkg := upd s.pkg b 0 }, .ok) := by
  simp only [look, h]; rfl

theorem look_miss (h : s.cache b ue c = none) : look false s b ue c = (lookFresh s b ue c, .ok) := by
  simp only [look, h]; rfl

theorem lookFresh_mks_self (s : State) (b : Nat) (ue : Bool) (c : Nat) :
    (lookFresh s b ue c).mks s.n = { b := b, ue := ue, addr := c, target := if ue then none else some (s.mem c).ty,
                                     origin := none, mocked := false, canceled := false } := upd_same ..

theorem lookFresh_mks_other (s : State) (b : Nat) (ue : Bool) (c : Nat) (h : j ≠ s.n) :
    (lookFresh s b ue c).mks j = s.mks j := upd_other h

theorem lookFresh_mocked (h : ((lookFresh s b ue c).mks j).mocked = true) :
    j ≠ s.n ∧ (lookFresh s b ue c).mks j = s.mks j := upd_mocked h rfl

theorem lookFresh_inv (hI : Inv s) (hmiss : s.cache b ue c = none) : Inv (lookFresh s b ue c) := by
  constructor
  · intro j (hj : s.n + 1 ≤ j)
    rw [lookFresh_mks_other s b ue c (Nat.ne_of_gt hj)]; exact hI.fresh j (Nat.le_of_succ_le hj)
  · intro j hj
    have e := (lookFresh_mocked hj).2
    rw [e] at hj ⊢; exact hI.act j hj
  · intro j (hj : j < s.n + 1)
    by_cases h : j = s.n
    · rw [h, lookFresh_mks_self]; exact if_pos ⟨rfl, rfl, rfl⟩
    · have hlt := Nat.lt_of_le_of_ne (Nat.le_of_lt_succ hj) h
      have hc := hI.allCached j hlt
      rw [lookFresh_mks_other s b ue c h]
      -- an old mocker is cached under a key other than the one that missed
      exact (if_neg fun e => by rw [e.1, e.2.1, e.2.2, hmiss] at hc; cases hc).trans hc
  · intro j (hj : j < s.n + 1) hue
    by_cases h : j = s.n
    · rw [h, lookFresh_mks_self] at hue ⊢
      have hue : ue = false := hue
      subst hue; rfl
    · rw [lookFresh_mks_other s b ue c h] at hue ⊢
      exact hI.ptrTyped j (Nat.lt_of_le_of_ne (Nat.le_of_lt_succ hj) h) hue
  · intro j k hj hk hjk
    have ej := (lookFresh_mocked hj).2
    have ek := (lookFresh_mocked hk).2
    rw [ej] at hj hjk; rw [ek] at hk hjk
    exact hI.uniq j k hj hk hjk
  · intro j hj
    have e := (lookFresh_mocked hj).2
    rw [e] at hj ⊢; exact hI.typed j hj
  · intro b' u' c' j (hcj : (if b' = b ∧ u' = ue ∧ c' = c then some s.n else s.cache b' u' c') = some j)
    split at hcj
    · next h => cases hcj; rw [lookFresh_mks_self]; exact ⟨Nat.lt_succ_self _, h.1.symm, h.2.1.symm, h.2.2.symm⟩
    · have h := hI.cacheOK b' u' c' j hcj
      rw [lookFresh_mks_other s b ue c (Nat.ne_of_lt h.1)]; exact ⟨Nat.lt_succ_of_lt h.1, h.2⟩

theorem lookFresh_base (hI : Inv s) (hB : Base s a x) : Base (lookFresh s b ue c) a x := by
  refine ⟨fun j hj => ?_, fun h => hB.2 fun j hj => h j ?_⟩
  · have e := (lookFresh_mocked hj.1).2
    unfold MockedAt at hj; rw [e] at hj ⊢; exact hB.1 j hj
  · unfold MockedAt; rw [lookFresh_mks_other s b ue c (Nat.ne_of_lt (hI.lt hj.1))]; exact hj

theorem resetGo_none {u : Bool} (rest : List (Bool × Nat)) (h : s.cache b u c = none) :
    resetGo false b s ((u, c) :: rest) = resetGo false b s rest := by
  simp only [resetGo, h]

theorem resetGo_some {u : Bool} (rest : List (Bool × Nat)) (h : s.cache b u c = some i)
    (hok : (cancel false s i).2 = .ok) :
    resetGo false b s ((u, c) :: rest) = resetGo false b (cancel false s i).1 rest := by
  simp only [resetGo, h]
  generalize cancel false s i = r at hok
  obtain ⟨s', o⟩ := r
  cases hok; rfl

theorem resetGo_keeps {P : State → Prop}
    (hP : ∀ s u c i, (u, c) ∈ ord → P s → s.cache b u c = some i →
      (cancel false s i).2 = .ok ∧ P (cancel false s i).1) (h : P s) :
    (resetGo false b s ord).2 = .ok ∧ P (resetGo false b s ord).1 := by
  induction ord generalizing s with
  | nil => exact ⟨rfl, h⟩
  | cons k rest ih =>
    obtain ⟨u, c⟩ := k
    have hP' : ∀ s u' c' i, (u', c') ∈ rest → _ := fun s u' c' i hm => hP s u' c' i (List.mem_cons_of_mem _ hm)
    cases hc : s.cache b u c with
    | none => rw [resetGo_none rest hc]; exact ih hP' h
    | some i =>
      obtain ⟨hok, h'⟩ := hP s u c i (List.mem_cons_self ..) h hc
      rw [resetGo_some rest hc hok]; exact ih hP' h'

theorem Inv.resetGo_keeps {P : State → Prop} (b : Nat) (ord : List (Bool × Nat))
    (hP : ∀ s u c i, Inv s → P s → s.cache b u c = some i → P (cancelled s i)) (hI : Inv s) (h : P s) :
    (resetGo false b s ord).2 = .ok ∧ Inv (resetGo false b s ord).1 ∧ P (resetGo false b s ord).1 :=
  C08L.resetGo_keeps (P := fun s => Inv s ∧ P s)
    (fun s u c i _ h hc => by rw [h.1.cancel_eq i]; exact ⟨rfl, cancelled_inv h.1 i, hP s u c i h.1 h.2 hc⟩) ⟨hI, h⟩

/-- `Reset` leaves no mock with a mocker cached under a listed key (the second disjunct, what callers use), and gives none a
    mock (the first, which the induction needs) -/
theorem resetGo_unmocks (b : Nat) (ord : List (Bool × Nat)) (hI : Inv s) (i : Nat)
    (h : (s.mks i).mocked = false ∨ ∃ k, k ∈ ord ∧ s.cache b k.1 k.2 = some i) :
    ((resetGo false b s ord).1.mks i).mocked = false := by
  induction ord generalizing s with
  | nil => exact h.elim id fun ⟨_, hm, _⟩ => nomatch hm
  | cons k rest ih =>
    obtain ⟨u, c⟩ := k
    cases hc : s.cache b u c with
    | none =>
      rw [resetGo_none rest hc]
      refine ih hI (h.imp_right fun ⟨k, hm, hk⟩ => ⟨k, (List.mem_cons.1 hm).resolve_left fun e => ?_, hk⟩)
      subst e; exact nomatch hc.symm.trans hk
    | some i' =>
      rw [resetGo_some rest hc (by rw [hI.cancel_eq]), hI.cancel_eq]
      refine ih (cancelled_inv hI i') ?_
      by_cases hi : i = i'
      · exact .inl (hi ▸ congrArg Mocker.mocked (cancelled_mks_self s i'))
      · rw [cancelled_mks_other s hi]
        refine h.imp_right fun ⟨k, hm, hk⟩ => ⟨k, (List.mem_cons.1 hm).resolve_left fun e => ?_, hk⟩
        subst e; exact hi (Option.some.inj (hc.symm.trans hk)).symm

theorem resetGo_restores (hI : Inv s) (hB : Base s a x) (b : Nat) (ord : List (Bool × Nat))
    (hb : ∀ j, MockedAt s a j → (s.mks j).b = b ∧ ((s.mks j).ue, a) ∈ ord) :
    (resetGo false b s ord).2 = .ok ∧ ((resetGo false b s ord).1.mem a).cur = x := by
  obtain ⟨hok, _, hB', hm⟩ := hI.resetGo_keeps b ord (P := fun t => Base t a x ∧ ∀ j, MockedAt t a j → MockedAt s a j)
    (fun t _ _ i hI h _ => ⟨cancelled_base hI i h.1, fun j hj => h.2 j (cancelled_mockedAt hj).2⟩) ⟨hB, fun _ h => h⟩
  refine ⟨hok, hB'.2 fun j hj => ?_⟩
  have hs := hm j hj
  have hc := hI.allCached j (hI.lt hs.1)
  rw [(hb j hs).1, hs.2] at hc
  exact Bool.noConfusion ((resetGo_unmocks b ord hI j (.inr ⟨_, (hb j hs).2, hc⟩)).symm.trans hj.1)

theorem step_inv_base (hI : Inv s) (op : Op) (hD : Disc s op) :
    Inv (step false s op).1 ∧
    ∀ a x, Base s a x → (∀ v, op = .write a v → ∃ i, MockedAt s a i) → Base (step false s op).1 a x := by
  cases op with
  | look b ue c =>
    simp only [step]
    cases hc : s.cache b ue c with
    | some i => rw [look_hit hc]; exact ⟨hI.congr (fun _ => rfl) rfl rfl rfl, fun _ _ h _ => h⟩
    | none => rw [look_miss hc]; exact ⟨lookFresh_inv hI hc, fun _ _ h _ => lookFresh_base hI h⟩
  | lookBad p => exact ⟨hI, fun _ _ h _ => h⟩
  | pkg b p => exact ⟨hI.congr (fun _ => rfl) rfl rfl rfl, fun _ _ h _ => h⟩
  | set i v => exact ⟨setOp_inv hI hD.1 hD.2, fun _ _ hB _ => setOp_base hD.1 hB⟩
  | apply i cb =>
    simp only [step, applyOp_eq]
    cases hr : cbResult cb with
    | error p => exact ⟨hI, fun _ _ h _ => h⟩
    | ok v => exact ⟨setOp_inv hI hD.1 (hD.2 v hr), fun _ _ hB _ => setOp_base hD.1 hB⟩
  | cancel i =>
    simp only [step, hI.cancel_eq]; exact ⟨cancelled_inv hI i, fun _ _ hB _ => cancelled_base hI i hB⟩
  | reset b ord =>
    obtain ⟨_, h2, h3⟩ := hI.resetGo_keeps b ord (P := fun t => ∀ a x, Base s a x → Base t a x)
      (fun t _ _ i hI h _ a x hB => cancelled_base hI i (h a x hB)) (fun _ _ h => h)
    exact ⟨h2, fun a x hB _ => h3 a x hB⟩
  | write c v =>
    refine ⟨hI.congr upd_cur_ty rfl rfl rfl, fun a x hB hw => ⟨hB.1, fun h => ?_⟩⟩
    have hac : a ≠ c := fun e => (hw v (e ▸ rfl)).elim h
    exact (congrArg Cell.cur (upd_other hac)).trans (hB.2 h)

theorem Good.cons {op : Op} {rest : List Op} (hI : Inv s) (hD : Disc s op)
    (hw : ∀ v, op = .write a v → ∃ i, MockedAt s a i) (h : Inv (step false s op).1 → Good a (step false s op).1 rest) :
    Good a s (op :: rest) := ⟨hD, hw, h (step_inv_base hI op hD).1⟩

theorem run_inv_base (a : Nat) (x : Boxed) : ∀ (ops : List Op) {s : State}, Inv s → Good a s ops → Base s a x →
    Inv (run false s ops) ∧ Base (run false s ops) a x
  | [], _, hI, _, hB => ⟨hI, hB⟩
  | op :: rest, _, hI, ⟨hD, hw, hG⟩, hB =>
    have h := step_inv_base hI op hD
    run_inv_base a x rest h.1 hG (h.2 a x hB hw)

theorem step_holds (op : Op) (h : Holds s i a x) (hk : KeepsMock i op) : Holds (step false s op).1 i a x := by
  cases op with
  | look b ue c =>
    simp only [step]
    cases hc : s.cache b ue c with
    | some j => rw [look_hit hc]; exact h
    | none => rw [look_miss hc]; exact h.upd (Nat.le_succ _) rfl fun e => absurd h.1 (e ▸ Nat.lt_irrefl _)
  | lookBad p => exact h
  | pkg b p => exact h
  | write c v => exact h
  | set j v => exact setOp_holds h
  | apply j cb =>
    simp only [step, applyOp_eq]
    cases cbResult cb with
    | error p => exact h
    | ok v => exact setOp_holds h
  | cancel j =>
    simp only [step]
    rcases cancel_cases s j with ⟨o, _, e⟩ | e
    · rw [e]; exact h
    · rw [e]; exact h.upd (Nat.le_refl _) rfl fun e => absurd e hk
  | reset b ord => exact absurd hk id

theorem run_holds (i a : Nat) (x : Boxed) : ∀ (ops : List Op) (s : State), Holds s i a x →
    (∀ op, op ∈ ops → KeepsMock i op) → Holds (run false s ops) i a x
  | [], _, h, _ => h
  | op :: rest, _, h, hk =>
    run_holds i a x rest _ (step_holds op h (hk op (List.mem_cons_self ..))) fun o ho => hk o (List.mem_cons_of_mem _ ho)

end C08L
