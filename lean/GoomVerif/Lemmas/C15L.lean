import GoomVerif.Gen.JmpAmd64
import GoomVerif.Gen.JmpArm64
import GoomVerif.Gen.JmpIfaceArm64
import GoomVerif.Model.X86Mini
import GoomVerif.Model.A64Mini
/-! The emitted byte lists are read back as numbers (`leNat_bytes`), the move-wide word as a sum of disjoint fields (`or_field`),
    and the four moves through the invariant "X26 holds the low `k` lanes of the address" (`exec_movk_lane`). -/
namespace C15L
open A64
open X86 (leNat)

theorem leNat_bytes {w : Nat} (x : BitVec w) (k j : Nat) :
    leNat ((List.range' j k).map fun i => BitVec.setWidth 8 (x >>> (8 * i))) = x.toNat >>> (8 * j) % 2 ^ (8 * k) := by
  induction k generalizing j with
  | zero => simp [leNat, Nat.mod_one]
  | succ k ih =>
    rw [List.range'_succ, List.map_cons, leNat, ih, BitVec.toNat_setWidth, BitVec.toNat_ushiftRight,
      Nat.mul_add 8 k 1, Nat.pow_add, Nat.mul_comm (2 ^ (8 * k)), Nat.mod_mul, ← Nat.shiftRight_eq_div_pow,
      ← Nat.shiftRight_add, Nat.mul_add 8 j 1]

theorem leNat_bytes32 (x : BitVec 32) :
    leNat [BitVec.setWidth 8 x, BitVec.setWidth 8 (x >>> 8), BitVec.setWidth 8 (x >>> 16),
      BitVec.setWidth 8 (x >>> 24)] = x.toNat :=
  (leNat_bytes x 4 0).trans (Nat.mod_eq_of_lt x.isLt)

theorem leNat_bytes64 (x : BitVec 64) :
    leNat [BitVec.setWidth 8 x, BitVec.setWidth 8 (x >>> 8), BitVec.setWidth 8 (x >>> 16),
      BitVec.setWidth 8 (x >>> 24), BitVec.setWidth 8 (x >>> 32), BitVec.setWidth 8 (x >>> 40),
      BitVec.setWidth 8 (x >>> 48), BitVec.setWidth 8 (x >>> 56)] = x.toNat :=
  (leNat_bytes x 8 0).trans (Nat.mod_eq_of_lt x.isLt)

theorem sext_toNat (x : BitVec 32) :
    (BitVec.signExtend 64 x).toNat = if x.toNat < 2^31 then x.toNat else x.toNat + (2^64 - 2^32) := by
  rw [BitVec.toNat_signExtend, BitVec.toNat_setWidth, Nat.mod_eq_of_lt (Nat.lt_trans x.isLt (by decide)),
    BitVec.msb_eq_decide]
  by_cases h : x.toNat < 2^31
  · rw [if_pos h, decide_eq_false (Nat.not_le_of_gt h), if_neg Bool.false_ne_true, Nat.add_zero]
  · rw [if_neg h, decide_eq_true (Nat.le_of_not_lt h), if_pos rfl]

theorem sext_setWidth (y : BitVec 64) (h : -(2:Int)^31 ≤ y.toInt ∧ y.toInt ≤ 2^31 - 1) :
    BitVec.signExtend 64 (BitVec.setWidth 32 y) = y := by
  apply BitVec.eq_of_toInt_eq
  rw [BitVec.toInt_signExtend_of_le (by decide), ← BitVec.signExtend_eq_setWidth_of_le y (by decide),
    BitVec.toInt_signExtend_eq_toInt_bmod_of_le y (by decide)]
  exact Int.bmod_eq_of_le (by omega) (by omega)

theorem fits_iff_sext (y : BitVec 64) :
    (-(2:Int)^31 ≤ y.toInt ∧ y.toInt ≤ 2^31 - 1) ↔ ∃ d : BitVec 32, y = BitVec.signExtend 64 d := by
  constructor
  · exact fun h => ⟨_, (sext_setWidth y h).symm⟩
  · rintro ⟨d, rfl⟩
    rw [BitVec.toInt_signExtend_of_le (by decide)]
    exact ⟨BitVec.le_toInt d, BitVec.toInt_le⟩

/-- both branches of the emitter encode the same field -/
theorem origin_rel_bytes (f t : BitVec 64) (h : Gen.Amd64.relative f t = true) :
    Gen.Amd64.jmpToOriginFunctionValue f t =
      let d := BitVec.setWidth 32 (t - f - 5#64)
      [0xe9#8, BitVec.setWidth 8 d, BitVec.setWidth 8 (d >>> 8), BitVec.setWidth 8 (d >>> 16),
        BitVec.setWidth 8 (d >>> 24)] := by
  have fwd : BitVec.setWidth 32 (t - f - 5#64) = BitVec.setWidth 32 (t - f) - 5#32 := by
    rw [BitVec.sub_eq_add_neg, BitVec.setWidth_add _ _ (by decide), BitVec.setWidth_neg_of_le (by decide),
      ← BitVec.sub_eq_add_neg]
    rfl
  have bwd : -BitVec.setWidth 32 (f - t) = BitVec.setWidth 32 (t - f) := by
    rw [← BitVec.setWidth_neg_of_le (by decide), BitVec.neg_sub, BitVec.add_comm, ← BitVec.sub_eq_add_neg]
  simp only [Gen.Amd64.jmpToOriginFunctionValue, h, if_true, bwd, ← fwd, ite_self]

theorem exec_e9 (d : BitVec 32) (m : X86.Mach) :
    X86.exec [0xe9#8, BitVec.setWidth 8 d, BitVec.setWidth 8 (d >>> 8), BitVec.setWidth 8 (d >>> 16),
      BitVec.setWidth 8 (d >>> 24)] m = some { m with rip := m.rip + 5 + BitVec.signExtend 64 d } := by
  simp only [X86.exec, BitVec.reduceEq, ↓reduceIte, leNat_bytes32, BitVec.ofNat_toNat, BitVec.setWidth_eq]

/-- emitted for position `e` with target `t`, run at `f` -/
theorem landing (e f t : BitVec 64) : f + 5#64 + (t - e - 5#64) = t + (f - e) :=
  calc f + 5#64 + (t - e - 5#64) = t + (f - e) + (5#64 - 5#64) := by simp only [BitVec.sub_eq_add_neg]; ac_rfl
    _ = t + (f - e) := by rw [BitVec.sub_self, BitVec.add_zero]

theorem or_toNat_disjoint (a b : BitVec 32) (k : Nat) (ha : a.toNat < 2^k) (hb : b.toNat % 2^k = 0) :
    (a ||| b).toNat = a.toNat + b.toNat := by
  -- `b = q <<< k`, and `q <<< k ||| a = q <<< k + a` for `a < 2^k`
  rw [BitVec.toNat_or, ← Nat.div_add_mod b.toNat (2^k), hb, Nat.add_zero, Nat.mul_comm, ← Nat.shiftLeft_eq,
    Nat.or_comm, ← Nat.shiftLeft_add_eq_or_of_lt ha, Nat.add_comm]

theorem or_field (a b : BitVec 32) (k j f : Nat) (ha : a.toNat < 2^k) (hb : b.toNat = f * 2^k) (hf : f < 2^j) :
    (a ||| b).toNat = a.toNat + f * 2^k ∧ (a ||| b).toNat < 2^(k + j) := by
  have e := or_toNat_disjoint a b k ha (by rw [hb]; exact Nat.mul_mod_left f (2^k))
  rw [e, hb, Nat.pow_add, Nat.mul_comm (2^k)]
  exact ⟨rfl, Nat.lt_of_lt_of_le (Nat.add_lt_add_right ha _)
    (by rw [Nat.add_comm, ← Nat.succ_mul]; exact Nat.mul_le_mul_right _ hf)⟩

theorem shl_toNat (f : BitVec 64) (k : Nat) (h : f.toNat * 2^k < 2^32) :
    (BitVec.setWidth 32 f <<< k).toNat = f.toNat * 2^k := by
  rw [BitVec.toNat_shiftLeft, BitVec.toNat_setWidth, Nat.shiftLeft_eq,
    Nat.mod_eq_of_lt (Nat.lt_of_le_of_lt (Nat.le_mul_of_pos_right _ (Nat.two_pow_pos k)) h), Nat.mod_eq_of_lt h]

theorem and3 (x : BitVec 64) (h : x.toNat < 4) : x &&& 3#64 = x := by
  apply BitVec.eq_of_toNat_eq
  rw [BitVec.toNat_and]
  exact (Nat.and_two_pow_sub_one_eq_mod x.toNat 2).trans (Nat.mod_eq_of_lt h)

theorem movImm_word (opc shift val : BitVec 64) (ho : opc.toNat < 4) (hs : shift.toNat < 4) (hv : val.toNat < 65536) :
    leNat (Gen.Arm64.movImm opc shift val) =
      2^31 + opc.toNat * 2^29 + 37 * 2^23 + shift.toNat * 2^21 + val.toNat * 32 + 26 := by
  simp only [Gen.Arm64.movImm, List.replicate, List.set]
  rw [leNat_bytes32, and3 opc ho, and3 shift hs]
  -- Rd = 26, imm16, hw, 100101, opc, sf = 1, stacked from bit 0 up
  obtain ⟨v1, b1⟩ := or_field 0x1a#32 _ 5 16 _ (by decide) (shl_toNat val 5 (by omega)) hv
  obtain ⟨v2, b2⟩ := or_field _ _ 21 2 _ b1 (shl_toNat shift 21 (by omega)) hs
  obtain ⟨v3, b3⟩ := or_field _ 0x12800000#32 23 6 37 b2 rfl (by decide)
  obtain ⟨v4, b4⟩ := or_field _ _ 29 2 _ b3 (shl_toNat opc 29 (by omega)) ho
  obtain ⟨v5, -⟩ := or_field _ 0x80000000#32 31 1 1 b4 rfl (by decide)
  rw [v5, v4, v3, v2, v1]
  show 26 + _ + _ + _ + _ + _ = _
  omega

theorem movWide_fields (opc hw v : Nat) (hh : hw < 4) (hv : v < 65536) :
    let n := 2^31 + opc * 2^29 + 37 * 2^23 + hw * 2^21 + v * 32 + 26
    n / 2^23 = 0x125 + opc * 64 ∧ n % 32 = 26 ∧ n / 2^21 % 4 = hw ∧ n / 32 % 65536 = v := by
  omega

theorem decode_ldr : decode (leNat [0x4a#8, 0x03#8, 0x40#8, 0xf9#8]) = some (.ldr 10 26 0) := by decide

theorem decode_br : decode (leNat [0x40#8, 0x01#8, 0x1f#8, 0xd6#8]) = some (.br 10) := by decide

theorem movImm_len4 (opc shift val : BitVec 64) : ∃ a b c d, Gen.Arm64.movImm opc shift val = [a, b, c, d] :=
  ⟨_, _, _, _, rfl⟩

theorem movImm_length (opc shift val : BitVec 64) : (Gen.Arm64.movImm opc shift val).length = 4 := rfl

theorem lane (x : BitVec 64) (k : Nat) : ((x >>> k) &&& 0xffff#64).toNat = x.toNat / 2^k % 65536 := by
  rw [BitVec.toNat_and, BitVec.toNat_ushiftRight, Nat.shiftRight_eq_div_pow]
  exact Nat.and_two_pow_sub_one_eq_mod _ 16

theorem lane0 (x : BitVec 64) : (x &&& 0xffff#64).toNat = x.toNat % 65536 := by
  rw [← Nat.div_one x.toNat]
  exact lane x 0

/-- MOVK on lanes: lane `k` of `n` written over the lanes of `n` below `k` gives the lanes below `k + 1`.  The left side is the
    value `exec_movk` computes at `X26 = n % 2^(16*k)`; the lane it clears first is 0 there. -/
theorem movk_lane (n k : Nat) :
    n % 2^(16*k) - (n % 2^(16*k) / 2^(16*k) % 65536) * 2^(16*k) + (n / 2^(16*k) % 65536) * 2^(16*k) =
      n % 2^(16*(k+1)) := by
  rw [Nat.div_eq_of_lt (Nat.mod_lt _ (Nat.two_pow_pos _)), Nat.zero_mod, Nat.zero_mul, Nat.sub_zero,
    Nat.mul_add 16 k 1, Nat.pow_add, Nat.mod_mul, Nat.mul_comm (2^(16*k))]

section
variable {hw val : BitVec 64} {rest : List (BitVec 8)} {m : A64.Mach}

theorem exec_movz (hs : hw.toNat < 4) (hv : val.toNat < 65536) :
    exec (Gen.Arm64.movImm 2#64 hw val ++ rest) m =
      exec rest { m with pc := m.pc + 4, x := setReg m.x 26 (BitVec.ofNat 64 (val.toNat * 2^(16*hw.toNat))) } := by
  obtain ⟨h1, h2, h3, h4⟩ := movWide_fields (2#64).toNat _ _ hs hv
  have e := movImm_word 2#64 hw val (by decide) hs hv
  -- the four bytes are named, not computed: `exec` asks only for their `leNat`, which is `e`
  obtain ⟨a, b, c, d, h⟩ := movImm_len4 2#64 hw val
  rw [h] at e ⊢
  simp only [List.cons_append, List.nil_append, exec, e, decode, h1, h2, h3, h4]
  rfl

theorem exec_movk (hs : hw.toNat < 4) (hv : val.toNat < 65536) :
    exec (Gen.Arm64.movImm 3#64 hw val ++ rest) m =
      exec rest { m with pc := m.pc + 4, x := setReg m.x 26 (BitVec.ofNat 64
        ((m.x 26).toNat - ((m.x 26).toNat / 2^(16*hw.toNat) % 65536) * 2^(16*hw.toNat) + val.toNat * 2^(16*hw.toNat))) } := by
  obtain ⟨h1, h2, h3, h4⟩ := movWide_fields (3#64).toNat _ _ hs hv
  have e := movImm_word 3#64 hw val (by decide) hs hv
  obtain ⟨a, b, c, d, h⟩ := movImm_len4 3#64 hw val
  rw [h] at e ⊢
  simp only [List.cons_append, List.nil_append, exec, e, decode, h1, h2, h3, h4]
  rfl

/-- the invariant of the move sequence: after `k` moves X26 holds the low `k` lanes of `n` -/
theorem exec_movk_lane (n k : Nat) (hk : hw.toNat = k) (hk4 : k < 4) (hval : val.toNat = n / 2^(16*k) % 65536)
    (hx : m.x 26 = BitVec.ofNat 64 (n % 2^(16*k))) :
    exec (Gen.Arm64.movImm 3#64 hw val ++ rest) m =
      exec rest { m with pc := m.pc + 4, x := setReg m.x 26 (BitVec.ofNat 64 (n % 2^(16*(k+1)))) } := by
  have hlt : n % 2^(16*k) < 2^64 :=
    Nat.lt_of_lt_of_le (Nat.mod_lt _ (Nat.two_pow_pos _)) (Nat.pow_le_pow_right (by decide) (by omega))
  rw [exec_movk (hk ▸ hk4) (hval ▸ Nat.mod_lt _ (by decide)), hx, BitVec.toNat_ofNat, Nat.mod_eq_of_lt hlt, hk, hval,
    movk_lane]

end

/-- The generic six-instruction sequence `MOVZ/MOVK×3 X26 ; LDR Xt,[X26] ; BR Xt` built with `movImm`. -/
theorem arm64_seq (dx : BitVec 64) (m : A64.Mach) {l0 l1 l2 l3 r0 r1 r2 r3 : BitVec 8} {rt : Nat}
    (hl : decode (leNat [l0, l1, l2, l3]) = some (.ldr rt 26 0))
    (hb : decode (leNat [r0, r1, r2, r3]) = some (.br rt)) (hrt : rt < 31) (hne : rt ≠ 26) :
    ∃ m', exec (Gen.Arm64.movImm 2#64 0#64 (dx &&& 0xffff#64) ++ (Gen.Arm64.movImm 3#64 1#64 (dx >>> 16 &&& 0xffff#64) ++
        (Gen.Arm64.movImm 3#64 2#64 (dx >>> 32 &&& 0xffff#64) ++ (Gen.Arm64.movImm 3#64 3#64 (dx >>> 48 &&& 0xffff#64) ++
        ([l0, l1, l2, l3] ++ [r0, r1, r2, r3]))))) m = some m' ∧
      m'.pc = m.mem64 dx ∧ m'.x 26 = dx ∧ m'.x rt = m.mem64 dx ∧
      (∀ r, r ≠ 26 → r ≠ rt → m'.x r = m.x r) ∧ m'.mem64 = m.mem64 := by
  rw [exec_movz (by decide) (lane0 dx ▸ Nat.mod_lt _ (by decide)),
    exec_movk_lane dx.toNat 1 rfl (by decide) (lane dx 16)
      (congrArg (BitVec.ofNat 64) ((Nat.mul_one _).trans (lane0 dx))),
    exec_movk_lane dx.toNat 2 rfl (by decide) (lane dx 32) rfl,
    exec_movk_lane dx.toNat 3 rfl (by decide) (lane dx 48) rfl,
    Nat.mod_eq_of_lt dx.isLt, BitVec.ofNat_toNat, BitVec.setWidth_eq]
  simp only [List.cons_append, List.nil_append, exec, hl, hb, hrt, and_self, if_true, Nat.reduceLT]
  refine ⟨_, rfl, ?_⟩
  simp only [setReg, if_true, if_neg hne, if_neg (Ne.symm hne), Nat.mul_zero, BitVec.add_zero, true_and]
  exact ⟨fun r h26 hr => by simp only [if_neg hr, if_neg h26], trivial⟩

end C15L
