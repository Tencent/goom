import GoomVerif.Model.Debug
/-! A call through debug wrappers tracks the same call with the wrappers erased (`Tracks`), so states that differ only in
    what logging touches (`Sim`) answer alike and stay so related; before that, SprintV's guard and reflect's forwarding of
    compiled argument vectors, which the wrappers go through. -/
namespace C19L
open Debug

theorem sprintPieces_congr (r r' : Val → Option String) :
    ∀ ps : List Val, (∀ a ∈ ps, guardedNil a = false → r a = r' a) → sprintPieces r ps = sprintPieces r' ps
  | [], _ => rfl
  | a :: rest, h => by
    have ha : sprint1 r a = sprint1 r' a := by
      unfold sprint1
      cases hg : guardedNil a with
      | true => rfl
      | false => exact h a (List.mem_cons_self ..) hg
    simp only [sprintPieces, ha, sprintPieces_congr r r' rest (fun b hb => h b (List.mem_cons_of_mem _ hb))]

theorem sprintPieces_eq_map (r : Val → Option String) (g : Val → String) :
    ∀ ps : List Val, (∀ a ∈ ps, sprint1 r a = some (g a)) → sprintPieces r ps = some (ps.map g)
  | [], _ => rfl
  | a :: rest, h => by
    simp only [sprintPieces, h a (List.mem_cons_self ..),
      sprintPieces_eq_map r g rest (fun b hb => h b (List.mem_cons_of_mem _ hb)), List.map_cons]

theorem sprintV_isSome (r : Val → Option String) (ps : List Val)
    (h : ∀ a ∈ ps, guardedNil a = false → (r a).isSome = true) : (sprintV r ps).isSome = true := by
  -- every element yields a piece; which one is of no interest
  have piece : ∀ a ∈ ps, sprint1 r a = some ((sprint1 r a).getD "") := by
    intro a ha
    unfold sprint1
    cases hg : guardedNil a with
    | true => rfl
    | false =>
      obtain ⟨p, hp⟩ := Option.isSome_iff_exists.1 (h a ha hg)
      simp only [Bool.false_eq_true, if_false, hp, Option.getD_some]
  rw [sprintV, sprintPieces_eq_map r _ ps piece]
  rfl

theorem accepts_split {ks : List Kind} {ve : Option Kind} {args : List Val} : accepts ks ve args = true →
    ∃ fixed tail, args = fixed ++ tail ∧ fixed.length = ks.length ∧ fixedOk ks fixed = true ∧
      match ve with
      | none => tail = []
      | some _ => ∃ es, tail = [.pack es] := by
  fun_induction accepts ks ve args with
  | case1 => exact fun _ => ⟨[], [], rfl, rfl, rfl, rfl⟩
  | case2 e es => exact fun _ => ⟨[], [.pack es], rfl, rfl, rfl, es, rfl⟩
  | case3 k ks ve a vs ih =>
    intro h
    simp only [Bool.and_eq_true] at h
    obtain ⟨fixed, tail, rfl, hl, hk, ht⟩ := ih h.2
    refine ⟨.atom a :: fixed, tail, rfl, congrArg (· + 1) hl, ?_, ht⟩
    simp only [fixedOk, Val.kind, h.1, hk, Bool.true_or, Bool.and_self]
  | case4 => exact fun h => absurd h Bool.false_ne_true

theorem call_forward {β : Type} (sg : Sig) (f : List Val → β) (fail : String → β) (args : List Val)
    (hv : sg.velem = none) (h : sg.accepts args = true) : reflectCall sg f fail args = f args := by
  unfold Sig.accepts at h
  rw [hv] at h
  obtain ⟨fixed, tail, rfl, hl, hk, rfl⟩ := accepts_split h
  simp only [reflectCall, hv, List.append_nil, hl, Nat.lt_irrefl, if_false, hk, if_true]

theorem callSlice_forward {β : Type} (sg : Sig) (f : List Val → β) (fail : String → β) (args : List Val) (e : Kind)
    (hv : sg.velem = some e) (h : sg.accepts args = true) : reflectCallSlice sg f fail args = f args := by
  unfold Sig.accepts at h
  rw [hv] at h
  obtain ⟨fixed, tail, rfl, hl, hk, es, rfl⟩ := accepts_split h
  simp only [reflectCallSlice, hv, List.length_append, List.length_singleton, hl, Nat.lt_irrefl, if_false,
    List.take_left' hl, List.drop_left' hl, hk, List.all_cons, List.all_nil, Val.kind, beq_self_eq_true, Bool.and_self,
    if_true]

/-- The wrapper's choice (debug.go `interceptDebugInfo`: `CallSlice` iff variadic, else `Call`) hands an accepted vector on unchanged. -/
theorem reflect_forward {β : Type} (sg : Sig) (f : List Val → β) (fail : String → β) (args : List Val)
    (h : sg.accepts args = true) :
    (if sg.variadic then reflectCallSlice sg f fail args else reflectCall sg f fail args) = f args := by
  unfold Sig.variadic
  cases hv : sg.velem with
  | none => exact call_forward sg f fail args hv h
  | some e => exact callSlice_forward sg f fail args e hv h

/-- the hypotheses of the transparency theorem: fmt returns on every value (else finding F13), and the mocked
    function is not one the console logger calls itself (else finding F14) -/
structure Total (env : Env) : Prop where
  fmt : ∀ v, (env.render v).isSome = true
  /-- fmt runs no user method that records anything (else finding F27) -/
  pure : ∀ v, env.renderEvents v = []
  indep : env.loggerCalls = false

variable {env : Env} {args : List Val} {a b s t : St}

theorem userEvents_nil (tot : Total env) : ∀ vs : List Val, userEvents env vs = []
  | [] => rfl
  | v :: r => by simp only [userEvents, tot.pure v, userEvents_nil tot r, ite_self, List.append_nil]

/-- `r`, the result of a call made in state `s`, has the outcome and the mock state of the reference result `c`, and
    has left what is installed and `dead` as they were in `s`. -/
structure Tracks (r : Out × St) (s : St) (c : Out × St) : Prop where
  out : r.1 = c.1
  ws : r.2.ws = c.2.ws
  inst : r.2.inst = s.inst
  dead : r.2.dead = s.dead

theorem afterCall_tracks (tot : Total env) (args results : List Val) (s : St) :
    Tracks (afterCall env args results s) s (.ret results, s) := by
  obtain ⟨a, ha⟩ := Option.isSome_iff_exists.1 (sprintV_isSome env.render args fun v _ _ => tot.fmt v)
  obtain ⟨r, hr⟩ := Option.isSome_iff_exists.1 (sprintV_isSome env.render results fun v _ _ => tot.fmt v)
  unfold afterCall
  split
  · exact ⟨rfl, rfl, rfl, rfl⟩
  · simp only [ha, hr, tot.indep, Bool.false_and, Bool.false_eq_true, if_false, userEvents_nil tot, List.append_nil]
    unfold consolefc
    split <;> exact ⟨rfl, rfl, rfl, rfl⟩

/-- the tail of both wrappers of `interceptDebugInfo`, applied to what the wrapped function did -/
def logged (env : Env) (args : List Val) : Out × St → Out × St
| (.ret results, s1) => afterCall env args results s1
| other => other

theorem callFn_wrap (f : Fn) (w : Bool) (s : St) (hacc : env.sig.accepts args = true) :
    callFn env (.wrap f) args w s = logged env args (callFn env f args true s) := by
  rw [callFn, reflect_forward env.sig (fun a => callFn env f a true s) (failOut s) args hacc]
  rfl

theorem callPF_wrap (p : PF) (args : List Val) (s : St) :
    callPF env (.wrap p) args s = logged env args (callPF env p args s) := rfl

theorem Tracks.logged (tot : Total env) (args : List Val) {r c : Out × St} (h : Tracks r s c) : Tracks (logged env args r) s c := by
  obtain ⟨o, s1⟩ := r
  cases o with
  | ret results =>
    have l := afterCall_tracks tot args results s1
    exact ⟨l.out.trans h.out, l.ws.trans h.ws, l.inst.trans h.inst, l.dead.trans h.dead⟩
  | _ => exact h

-- `w` is arbitrary on the left and `false` on the reference side: the flag only reaches `wraps`, which neither `Tracks` nor `Sim` reads.
theorem callFn_tracks (tot : Total env) (hacc : env.sig.accepts args = true) (ht : t.ws = s.ws) : ∀ (f : Fn) (w : Bool), Tracks (callFn env f args w s) s (callFn env f.erase args false t)
  | .user cb, w => by
    show Tracks (runCb env cb args w s) s (runCb env cb args false t)
    unfold runCb
    rw [ht]
    cases cb.kind <;> exact ⟨rfl, rfl, rfl, rfl⟩
  | .whenFn, w => by
    simp only [Fn.erase, callFn, ht]
    exact ⟨rfl, rfl, rfl, rfl⟩
  | .wrap f, w => by
    rw [callFn_wrap f w s hacc]
    exact (callFn_tracks tot hacc ht f true).logged tot args

theorem callPF_tracks (tot : Total env) (args : List Val) (ht : t.ws = s.ws) :
    ∀ p : PF, Tracks (callPF env p args s) s (callPF env p.erase args t)
  | .callback => by
    simp only [PF.erase, callPF, ht]
    exact ⟨rfl, rfl, rfl, rfl⟩
  | .wrap p => by
    rw [callPF_wrap]
    exact (callPF_tracks tot args ht p).logged tot args

/-- two states that differ only in the logger switches, the log, the wrapper bookkeeping, and in debug wrappers
    around what is installed -/
structure Sim (a b : St) : Prop where
  ws : a.ws = b.ws
  inst : a.inst.map Inst.erase = b.inst.map Inst.erase
  dead : a.dead = b.dead

theorem Sim.refl' (a : St) : Sim a a := ⟨rfl, rfl, rfl⟩
theorem Sim.symm' {a b : St} (h : Sim a b) : Sim b a := ⟨h.ws.symm, h.inst.symm, h.dead.symm⟩
theorem Sim.trans' {c : St} (h : Sim a b) (g : Sim b c) : Sim a c := ⟨h.ws.trans g.ws, h.inst.trans g.inst, h.dead.trans g.dead⟩
theorem Sim.setWs (h : Sim a b) (ws : WS) : Sim { a with ws := ws } { b with ws := ws } := ⟨rfl, h.inst, h.dead⟩
theorem Sim.setInst (h : Sim a b) (i : Option Inst) : Sim { a with inst := i } { b with inst := i } := ⟨h.ws, rfl, h.dead⟩

/-- The reference is `b` with its wrappers erased, not `s`: in `callTarget_sim` both `a` and `b` itself (`Sim.refl'`) track this one call. -/
theorem callTarget_tracks (tot : Total env) (hacc : env.sig.accepts args = true) (h : Sim s b) :
    Tracks (callTarget env args s) s (callTarget env args { b with inst := b.inst.map Inst.erase }) := by
  unfold callTarget
  simp only [← h.inst]
  cases hs : s.inst with
  | none => exact ⟨rfl, by simp only [Option.map_none, h.ws], hs.symm, rfl⟩
  | some i =>
    cases i with
    | fn f => exact callFn_tracks tot hacc (t := { b with inst := some (.fn f.erase) }) h.ws.symm f false
    | pf p => exact callPF_tracks tot args (t := { b with inst := some (.pf p.erase) }) h.ws.symm p

theorem callTarget_sim (tot : Total env) (hacc : env.sig.accepts args = true) (h : Sim a b) :
    (callTarget env args a).1 = (callTarget env args b).1 ∧ Sim (callTarget env args a).2 (callTarget env args b).2 := by
  have ta := callTarget_tracks tot hacc h
  have tb := callTarget_tracks tot hacc (Sim.refl' b)
  exact ⟨ta.out.trans tb.out.symm, ta.ws.trans tb.ws.symm, by rw [ta.inst, tb.inst, h.inst], by rw [ta.dead, tb.dead, h.dead]⟩

def instOf (env : Env) (imp : Fn) (pf : Option PF) : Inst :=
  match env.kind, pf with
  | .patch, _ => .fn imp
  | .iface, none => .fn imp
  | .iface, some p => .pf p

theorem install_sim (env : Env) (s : St) (imp : Fn) (pf : Option PF) :
    Sim (install env s imp pf) { s with inst := some (instOf env imp pf) } := by
  unfold install intercept instOf
  cases env.kind <;> cases s.isDebugOpen <;> cases pf <;> exact ⟨rfl, rfl, rfl⟩

theorem bumpTrace_sim (s : St) : Sim (bumpTrace s) s := by
  unfold bumpTrace
  split <;> exact ⟨rfl, rfl, rfl⟩

theorem applyReq_frame (tot : Total env) (s : St) (imp : Fn) (pf : Option PF) :
    Sim (applyReq env s (some (imp, pf))) { s with inst := some (instOf env imp pf) } := by
  simp only [applyReq, tot.indep, Bool.false_and, Bool.false_eq_true, if_false]
  exact (install_sim env _ imp pf).trans' ((bumpTrace_sim s).setInst _)

theorem applyReq_sim (tot : Total env) (h : Sim a b) : ∀ req : Option (Fn × Option PF),
    Sim (applyReq env a req) (applyReq env b req)
  | none => h
  | some (imp, pf) => ((applyReq_frame tot a imp pf).trans' (h.setInst _)).trans' (applyReq_frame tot b imp pf).symm'

theorem applyReq_dead (tot : Total env) (s : St) : ∀ req : Option (Fn × Option PF), (applyReq env s req).dead = s.dead
  | none => rfl
  | some (imp, pf) => (applyReq_frame tot s imp pf).dead

/-- the catch-all arm of `step` (Apply, Return, When, Returns), which cannot be named there: on each of these operations
    `step env s op` is `cfgOp env s op` by `rfl` -/
def cfgOp (env : Env) (s : St) (op : Op) : St × String :=
  let r := cfgStep env s.ws op
  let s1 := applyReq env { s with ws := r.1 } r.2.1
  (s1, if s1.dead then "->CRASH" else r.2.2)

theorem cfgOp_sim (tot : Total env) (h : Sim a b) (op : Op) :
    (cfgOp env a op).2 = (cfgOp env b op).2 ∧ Sim (cfgOp env a op).1 (cfgOp env b op).1 := by
  have hs := applyReq_sim tot (h.setWs (cfgStep env b.ws op).1) (cfgStep env b.ws op).2.1
  simp only [cfgOp, h.ws]
  exact ⟨by rw [hs.dead], hs⟩

def isDbg : Op → Bool
| .dbg _ => true
| _ => false

theorem step_dbg (env : Env) (a : St) {op : Op} (h : isDbg op = true) : (step env a op).2 = "ok" ∧ Sim (step env a op).1 a := by
  cases op with
  | dbg d => cases d <;> exact ⟨rfl, rfl, rfl, rfl⟩
  | _ => exact absurd h Bool.false_ne_true

theorem step_call_rejected (env : Env) (s : St) (hacc : env.sig.accepts args = false) :
    step env s (.call args) = (s, "bad-op") := by
  simp only [step, hacc, Bool.not_false, if_true]

theorem step_call (env : Env) (s : St) (hacc : env.sig.accepts args = true) :
    step env s (.call args) =
      let r := callTarget env args { s with ws := { s.ws with events := [], wrote := false } }
      (r.2, outTok r.2 r.1 args) := by
  simp only [step, hacc, Bool.not_true, Bool.false_eq_true, if_false]

theorem outTok_congr (h : s.ws = t.ws) (o : Out) (args : List Val) : outTok s o args = outTok t o args := by
  unfold outTok
  rw [h]

theorem step_sim (tot : Total env) (h : Sim a b) (op : Op) :
    (step env a op).2 = (step env b op).2 ∧ Sim (step env a op).1 (step env b op).1 := by
  cases op with
  | call args =>
    cases hacc : env.sig.accepts args with
    | false =>
      rw [step_call_rejected env a hacc, step_call_rejected env b hacc]
      exact ⟨rfl, h⟩
    | true =>
      rw [step_call env a hacc, step_call env b hacc, h.ws]
      obtain ⟨ho, hs⟩ := callTarget_sim tot hacc (h.setWs { b.ws with events := [], wrote := false })
      exact ⟨by simp only [ho, outTok_congr hs.ws], hs⟩
  | cancel => exact ⟨rfl, rfl, rfl, h.dead⟩
  | dbg d =>
    obtain ⟨ta, sa⟩ := step_dbg env a (op := .dbg d) rfl
    obtain ⟨tb, sb⟩ := step_dbg env b (op := .dbg d) rfl
    exact ⟨ta.trans tb.symm, (sa.trans' h).trans' sb.symm'⟩
  | _ => exact cfgOp_sim tot h _

theorem step_dead (tot : Total env) (s : St) (op : Op) : (step env s op).1.dead = s.dead := by
  cases op with
  | call args =>
    cases hacc : env.sig.accepts args with
    | false => rw [step_call_rejected env s hacc]
    | true => rw [step_call env s hacc]; exact (callTarget_tracks tot hacc (Sim.refl' _)).dead
  | cancel => rfl
  | dbg d => exact (step_dbg env s (op := .dbg d) rfl).2.dead
  | _ => exact applyReq_dead tot { s with ws := _ } (cfgStep env s.ws _).2.1

theorem run_cons (env : Env) (s : St) (op : Op) (ops : List Op) :
    run env s (op :: ops) =
      if s.dead then ([], s)
      else ((step env s op).2 :: (run env (step env s op).1 ops).1, (run env (step env s op).1 ops).2) := rfl

theorem run_sim (tot : Total env) : ∀ (ops : List Op) {a b : St}, Sim a b →
    (run env a ops).1 = (run env b ops).1 ∧ Sim (run env a ops).2 (run env b ops).2
  | [], _, _, h => ⟨rfl, h⟩
  | op :: ops, a, b, h => by
    obtain ⟨ht, hs⟩ := step_sim tot h op
    obtain ⟨ih, ihs⟩ := run_sim tot ops hs
    rw [run_cons, run_cons, h.dead, ht, ih]
    split
    · exact ⟨rfl, h⟩
    · exact ⟨rfl, ihs⟩

theorem run_dead (tot : Total env) : ∀ (ops : List Op) (s : St), s.dead = false → (run env s ops).2.dead = false
  | [], _, h => h
  | op :: ops, s, h => by
    rw [run_cons, h]
    exact run_dead tot ops _ ((step_dead tot s op).trans h)

def eraseToks : List Op → List String → List String
| op :: ops, t :: ts => if isDbg op then eraseToks ops ts else t :: eraseToks ops ts
| _, _ => []

theorem run_of_dead (env : Env) (ops : List Op) (h : s.dead = true) : (run env s ops).1 = [] := by
  cases ops with
  | nil => rfl
  | cons op rest => rw [run_cons, h]; rfl

theorem run_erase (tot : Total env) : ∀ (ops : List Op) {a b : St}, Sim a b →
    (run env b (ops.filter (fun o => !isDbg o))).1 = eraseToks ops (run env a ops).1
  | [], _, _, _ => rfl
  | op :: ops, a, b, h => by
    cases hd : a.dead with
    | true => rw [run_of_dead env _ hd, run_of_dead env _ (h.dead ▸ hd)]; rfl
    | false =>
      rw [run_cons env a, hd, List.filter_cons]
      cases hop : isDbg op with
      | true =>
        simp only [Bool.not_true, Bool.false_eq_true, if_false, eraseToks, hop, if_true]
        exact run_erase tot ops ((step_dbg env a hop).2.trans' h)
      | false =>
        obtain ⟨ht, hs⟩ := step_sim tot h op
        simp only [Bool.not_false, Bool.false_eq_true, if_true, if_false, eraseToks, hop]
        rw [run_cons env b, ← h.dead, hd, ← ht, run_erase tot ops hs]
        rfl

theorem varStep_sim {a b : VarSt} (hc : a.cur = b.cur) (ho : a.origin = b.origin) (op : VarOp) :
    (varStep a op).2 = (varStep b op).2 ∧ (varStep a op).1.cur = (varStep b op).1.cur ∧
      (varStep a op).1.origin = (varStep b op).1.origin := by
  cases op with
  | dbg d => cases d <;> exact ⟨rfl, hc, ho⟩
  | _ => simp only [varStep, varDoSet, hc, ho, and_self]

theorem varRun_sim : ∀ (ops : List VarOp) {a b : VarSt}, a.cur = b.cur → a.origin = b.origin →
    (varRun a ops).1 = (varRun b ops).1 ∧ (varRun a ops).2.cur = (varRun b ops).2.cur
  | [], _, _, hc, _ => ⟨rfl, hc⟩
  | op :: ops, a, b, hc, ho => by
    obtain ⟨ht, hc', ho'⟩ := varStep_sim hc ho op
    obtain ⟨ih, ihc⟩ := varRun_sim ops hc' ho'
    simp only [varRun]
    exact ⟨by rw [ht, ih], ihc⟩

end C19L
