import GoomVerif.Model.Mem
/-! A write is a script of micro-steps: what holds on every path, failing ones included, comes from an invariant of scripts
    (`run_inv`); what the successful path yields, from one equation per pass (`run_prot`, `run_copy`). -/
namespace C14L
open Mem Gen.Page

theorem ps_toNat (a : BitVec 64) : (PageStart a).toNat = a.toNat / 4096 * 4096 := by
  have hmask : (~~~ ((0x1000#64) - (0x1#64))) = BitVec.allOnes 64 <<< 12 := by decide
  rw [PageStart, hmask, ← BitVec.shiftLeft_ushiftRight, BitVec.toNat_shiftLeft, BitVec.toNat_ushiftRight,
    Nat.shiftLeft_eq, Nat.shiftRight_eq_div_pow]
  exact Nat.mod_eq_of_lt (Nat.lt_of_le_of_lt (Nat.div_mul_le_self ..) a.isLt)

theorem pageOf_toNat (a : Addr) : (pageOf a).toNat = a.toNat / 4096 * 4096 := ps_toNat a

/-- the write `[a, a+n)` does not reach the last page of the 64-bit address space (so neither `a+n` nor `p += pageSize` wraps) -/
def NoWrap (a : Addr) (n : Nat) : Prop := a.toNat + n ≤ 2^64 - 4096

theorem toNat_add_ofNat (a : Addr) (i : Nat) (h : a.toNat + i < 2^64) : (a + BitVec.ofNat 64 i).toNat = a.toNat + i := by
  rw [BitVec.toNat_add, BitVec.toNat_ofNat, Nat.add_mod_mod, Nat.mod_eq_of_lt h]

theorem add_toNat_of_le {a : Addr} {i n : Nat} (h : NoWrap a n) (hi : i ≤ n) :
    (a + BitVec.ofNat 64 i).toNat = a.toNat + i :=
  toNat_add_ofNat a i (by unfold NoWrap at h; omega)

theorem floor_eq {p a : Nat} (hp : p % 4096 = 0) (hlo : a / 4096 * 4096 ≤ p) (hle : p ≤ a) : a / 4096 * 4096 = p :=
  Nat.le_antisymm hlo (Nat.div_mul_cancel (Nat.dvd_of_mod_eq_zero hp) ▸ Nat.mul_le_mul_right _ (Nat.div_le_div_right hle))

theorem aligned_succ {p q : Nat} (hp : p % 4096 = 0) (hq : q % 4096 = 0) (h : p < q) : p + 4096 ≤ q := by omega

theorem mem_pagesLoop (lim q : Addr) (hlim : lim.toNat ≤ 2^64 - 4096) : ∀ (fuel : Nat) (p : Addr),
    p.toNat % 4096 = 0 → lim.toNat ≤ p.toNat + fuel * 4096 →
    (q ∈ pagesLoop fuel p lim ↔ (q.toNat % 4096 = 0 ∧ p.toNat ≤ q.toNat ∧ q.toNat < lim.toNat)) := by
  intro fuel
  induction fuel with
  | zero =>
    intro p _ hf
    rw [Nat.zero_mul, Nat.add_zero] at hf
    simp only [pagesLoop, List.not_mem_nil, false_iff]
    exact fun ⟨_, h2, h3⟩ => Nat.lt_irrefl _ (Nat.lt_of_lt_of_le h3 (Nat.le_trans hf h2))
  | succ f ih =>
    intro p hal hf
    rw [pagesLoop]
    by_cases hlt : p < lim
    · have hlt' : p.toNat < lim.toNat := BitVec.lt_def.mp hlt
      have hnext : (p + BitVec.ofNat 64 pageSize).toNat = p.toNat + 4096 := toNat_add_ofNat p 4096 (by omega)
      rw [if_pos hlt, List.mem_cons, ih _ (by rw [hnext, Nat.add_mod_right]; exact hal)
        (by rw [hnext, Nat.add_assoc, Nat.add_comm 4096, ← Nat.succ_mul]; exact hf), hnext]
      constructor
      · rintro (rfl | ⟨h1, h2, h3⟩)
        · exact ⟨hal, Nat.le_refl _, hlt'⟩
        · exact ⟨h1, Nat.le_trans (Nat.le_add_right ..) h2, h3⟩
      · rintro ⟨h1, h2, h3⟩
        by_cases hq : q = p
        · exact Or.inl hq
        · have hne : p.toNat ≠ q.toNat := fun e => hq (BitVec.eq_of_toNat_eq e.symm)
          exact Or.inr ⟨h1, aligned_succ hal h1 (Nat.lt_of_le_of_ne h2 hne), h3⟩
    · simp only [if_neg hlt, List.not_mem_nil, false_iff]
      exact fun ⟨_, h2, h3⟩ => hlt (BitVec.lt_def.mpr (Nat.lt_of_le_of_lt h2 h3))

theorem mem_pages_fuel {a : Addr} {n : Nat} {q : Addr} (h : NoWrap a n) {fuel : Nat} (hf : n / pageSize + 2 ≤ fuel) :
    q ∈ pagesLoop fuel (PageStart a) (a + BitVec.ofNat 64 n) ↔
      (q.toNat % 4096 = 0 ∧ a.toNat / 4096 * 4096 ≤ q.toNat ∧ q.toNat < a.toNat + n) := by
  have hlim : (a + BitVec.ofNat 64 n).toNat = a.toNat + n := add_toNat_of_le h (Nat.le_refl n)
  have hn : a.toNat + n ≤ 2^64 - 4096 := h
  -- `n / 4096 + 2` steps of 4096 from `⌊a⌋ > a - 4096` pass `a + n`: the fuel of `pages` is enough (last side goal)
  rw [mem_pagesLoop _ q (by rw [hlim]; exact hn) fuel _ (by rw [ps_toNat]; exact Nat.mul_mod_left ..)
    (by rw [hlim, ps_toNat]; simp only [pageSize] at hf; omega), hlim, ps_toNat]

theorem mem_pages {a : Addr} {n : Nat} {q : Addr} (h : NoWrap a n) :
    q ∈ pages a n ↔ (q.toNat % 4096 = 0 ∧ a.toNat / 4096 * 4096 ≤ q.toNat ∧ q.toNat < a.toNat + n) :=
  mem_pages_fuel h (Nat.le_refl _)

theorem pages_cover (a : Addr) (n i : Nat) (h : NoWrap a n) (hi : i < n) :
    pageOf (a + BitVec.ofNat 64 i) ∈ pages a n := by
  rw [mem_pages h, pageOf_toNat, add_toNat_of_le h (Nat.le_of_lt hi)]
  exact ⟨Nat.mul_mod_left .., Nat.mul_le_mul_right _ (Nat.div_le_div_right (Nat.le_add_right ..)),
    Nat.lt_of_le_of_lt (Nat.div_mul_le_self ..) (Nat.add_lt_add_left hi _)⟩

theorem pages_tight (a : Addr) (n : Nat) (p : Addr) (h : NoWrap a n) (hn : 0 < n) (hp : p ∈ pages a n) :
    ∃ i, i < n ∧ pageOf (a + BitVec.ofNat 64 i) = p := by
  obtain ⟨hal, hlo, hhi⟩ := (mem_pages h).mp hp
  -- the page of the first byte if `p` starts at or below `a`, else `p` is itself an address of the write
  by_cases hle : p.toNat ≤ a.toNat
  · refine ⟨0, hn, BitVec.eq_of_toNat_eq ?_⟩
    rw [pageOf_toNat, add_toNat_of_le h (Nat.zero_le n)]
    exact floor_eq hal hlo hle
  · have hlt : p.toNat - a.toNat < n := Nat.sub_lt_left_of_lt_add (Nat.le_of_not_le hle) hhi
    refine ⟨p.toNat - a.toNat, hlt, BitVec.eq_of_toNat_eq ?_⟩
    rw [pageOf_toNat, add_toNat_of_le h (Nat.le_of_lt hlt), Nat.add_sub_cancel' (Nat.le_of_not_le hle)]
    exact Nat.div_mul_cancel (Nat.dvd_of_mod_eq_zero hal)

theorem step_ok {s s' : State} {st : Step} (h : step s st = .ok s') :
    (∃ p pr, st = .mprotect p pr ∧ s' = { s with perm := setPerm s.perm p pr }) ∨
    (∃ a b, st = .store a b ∧ s' = { s with mem := setByte s.mem a b }) := by
  cases st with
  | mprotect p pr =>
    simp only [step] at h
    split at h
    · cases h
    · split at h
      · cases h
      · cases h; exact Or.inl ⟨p, pr, rfl, rfl⟩
  | store a b =>
    simp only [step] at h
    split at h
    · split at h
      · cases h; exact Or.inr ⟨a, b, rfl, rfl⟩
      · cases h
    · cases h

theorem run_inv (P : State → Prop) : ∀ (sc : List Step) (s : State),
    (∀ st ∈ sc, ∀ s₁ s₂, step s₁ st = .ok s₂ → P s₁ → P s₂) → P s → P (run s sc).1 := by
  intro sc
  induction sc with
  | nil => intro s _ h; exact h
  | cons st rest ih =>
    intro s hP h
    simp only [run]
    cases hst : step s st with
    | error e => exact h
    | ok s' =>
      exact ih s' (fun st' hm => hP st' (List.mem_cons_of_mem _ hm)) (hP st (List.mem_cons_self ..) s s' hst h)

theorem run_frame {sc : List Step} {s : State} {q : Addr} (hq : ∀ b, Step.store q b ∉ sc) :
    (run s sc).1.mem q = s.mem q := by
  refine run_inv (fun s' => s'.mem q = s.mem q) sc s (fun st hm s₁ s₂ hst h => ?_) rfl
  rcases step_ok hst with ⟨p, pr, rfl, rfl⟩ | ⟨a, b, rfl, rfl⟩
  · exact h
  · have hne : q ≠ a := fun e => hq b (e ▸ hm)
    simp only [setByte, hne, if_false]
    exact h

def Exec (s : State) (p : Addr) : Prop := ∃ pr, s.perm p = some pr ∧ pr.x = true

theorem run_exec {sc : List Step} {s : State} {p : Addr} (hx : ∀ p' pr, Step.mprotect p' pr ∈ sc → pr.x = true)
    (he : Exec s p) : Exec (run s sc).1 p := by
  refine run_inv (Exec · p) sc s (fun st hm s₁ s₂ hst h => ?_) he
  rcases step_ok hst with ⟨p', pr, rfl, rfl⟩ | ⟨a, b, rfl, rfl⟩
  · by_cases hp : p = p'
    · exact ⟨pr, by simp only [setPerm, hp, if_true], hx p' pr hm⟩
    · simp only [Exec, setPerm, hp, if_false]
      exact h
  · exact h

theorem run_append : ∀ (l1 l2 : List Step) (s : State),
    run s (l1 ++ l2) = match run s l1 with
      | (s1, none) => run s1 l2
      | (s1, some e) => (s1, some e) := by
  intro l1
  induction l1 with
  | nil => intro l2 s; simp only [List.nil_append, run]
  | cons st rest ih =>
    intro l2 s
    simp only [List.cons_append, run]
    cases hst : step s st with
    | ok s' => simp only [ih]
    | error e => rfl

def setMany (f : Addr → Option Perm) (ps : List Addr) (pr : Perm) : Addr → Option Perm :=
  fun q => if q ∈ ps then some pr else f q

theorem setMany_setMany (f : Addr → Option Perm) (ps : List Addr) (pr pr' : Perm) :
    setMany (setMany f ps pr) ps pr' = setMany f ps pr' := by
  funext q
  simp only [setMany]
  split <;> rfl

theorem setMany_cons (f : Addr → Option Perm) (p : Addr) (rest : List Addr) (pr : Perm) :
    setMany f (p :: rest) pr = setMany (setPerm f p pr) rest pr := by
  funext q
  simp only [setMany, setPerm, List.mem_cons]
  by_cases h : q ∈ rest
  · simp only [h, or_true, if_true]
  · simp only [h, or_false, if_false]

def MappedAll (s : State) (ps : List Addr) : Prop := ∀ p ∈ ps, (s.perm p).isSome = true

def Allowed (s : State) (pr : Perm) : Prop := (s.denyWX && pr.w && pr.x) = false

theorem allowed_of_no_policy (s : State) (pr : Perm) (hd : s.denyWX = false) : Allowed s pr := by
  rw [Allowed, hd]; rfl

/-- the policy is asked only of a non-empty pass: an empty write under W^X takes the normal path -/
theorem run_prot (pr : Perm) : ∀ (ps : List Addr) (s : State), MappedAll s ps → (ps ≠ [] → Allowed s pr) →
    run s (ps.map (fun p => Step.mprotect p pr)) = ({ s with perm := setMany s.perm ps pr }, none) := by
  intro ps
  induction ps with
  | nil => intro s _ _; rfl
  | cons p rest ih =>
    intro s hm hA
    have hA' : (s.denyWX && pr.w && pr.x) = false := hA (List.cons_ne_nil _ _)
    obtain ⟨v, hv⟩ := Option.isSome_iff_exists.mp (hm p (List.mem_cons_self ..))
    simp only [List.map_cons, run, step, hv, hA', Bool.false_eq_true, if_false]
    rw [ih { s with perm := setPerm s.perm p pr } (fun p' hp' => ?_) (fun _ => hA')]
    · rw [setMany_cons]
    · show (setPerm s.perm p pr p').isSome = true
      unfold setPerm
      split
      · rfl
      · exact hm p' (List.mem_cons_of_mem _ hp')

theorem run_prot_refused {a : Addr} {n : Nat} {pr : Perm} {s : State} {p0 : Addr} {rest : List Addr} {e : Err}
    (hp : pages a n = p0 :: rest) (h : step s (.mprotect p0 pr) = .error e) :
    run s (protScript a n pr) = (s, some e) := by
  simp only [protScript, hp, List.map_cons, run, h]

def blit (f : Addr → Byte) (a : Addr) : Nat → List Byte → Addr → Byte
  | _, [] => f
  | i, b :: bs => blit (setByte f (a + BitVec.ofNat 64 i) b) a (i + 1) bs

theorem blit_frame (a q : Addr) : ∀ (data : List Byte) (i : Nat) (f : Addr → Byte),
    (∀ j, j < data.length → q ≠ a + BitVec.ofNat 64 (i + j)) → blit f a i data q = f q := by
  intro data
  induction data with
  | nil => intro i f _; rfl
  | cons b bs ih =>
    intro i f hq
    have h0 : q ≠ a + BitVec.ofNat 64 i := hq 0 (Nat.zero_lt_succ _)
    rw [blit, ih (i + 1) _ (fun j hj => by rw [Nat.add_assoc, Nat.add_comm 1 j]; exact hq (j + 1) (Nat.succ_lt_succ hj))]
    simp only [setByte, h0, if_false]

theorem blit_at (a : Addr) : ∀ (data : List Byte) (i : Nat) (f : Addr → Byte), i + data.length ≤ 2^64 →
    ∀ j (hj : j < data.length), blit f a i data (a + BitVec.ofNat 64 (i + j)) = data[j] := by
  intro data
  induction data with
  | nil => intro i f _ j hj; cases hj
  | cons b bs ih =>
    intro i f hlen j hj
    rw [List.length_cons] at hlen
    cases j with
    | zero =>
      -- the later stores go to other addresses: `i` and `i+1+j` differ modulo 2^64
      rw [blit, blit_frame a _ bs (i + 1) _ (fun j hj' e => ?_)]
      · simp only [setByte, Nat.add_zero, if_true, List.getElem_cons_zero]
      · have := congrArg BitVec.toNat ((BitVec.add_right_inj a).mp e)
        rw [BitVec.toNat_ofNat, BitVec.toNat_ofNat, Nat.mod_eq_of_lt (by omega), Nat.mod_eq_of_lt (by omega)] at this
        omega
    | succ k =>
      rw [blit, ← Nat.add_assoc, Nat.add_right_comm i k 1]
      exact ih (i + 1) _ (by omega) k (Nat.lt_of_succ_lt_succ hj)

def Writable (s : State) (a : Addr) : Prop := ∃ pr, s.perm (pageOf a) = some pr ∧ pr.w = true

theorem run_copy (a : Addr) : ∀ (data : List Byte) (i : Nat) (s : State),
    (∀ j, j < data.length → Writable s (a + BitVec.ofNat 64 (i + j))) →
    run s (copyFrom a i data) = ({ s with mem := blit s.mem a i data }, none) := by
  intro data
  induction data with
  | nil => intro i s _; rfl
  | cons b bs ih =>
    intro i s hw
    obtain ⟨pr, hpr, hprw⟩ : Writable s (a + BitVec.ofNat 64 i) := hw 0 (Nat.zero_lt_succ _)
    simp only [copyFrom, run, step, hpr, hprw, if_true]
    rw [ih (i + 1) _ (fun j hj => by rw [Nat.add_assoc, Nat.add_comm 1 j]; exact hw (j + 1) (Nat.succ_lt_succ hj))]
    rfl

theorem mem_copyFrom (a : Addr) : ∀ (data : List Byte) (i : Nat) (st : Step), st ∈ copyFrom a i data →
    ∃ j b, j < data.length ∧ st = Step.store (a + BitVec.ofNat 64 (i + j)) b := by
  intro data
  induction data with
  | nil => intro i st h; cases h
  | cons b bs ih =>
    intro i st h
    rcases List.mem_cons.mp h with h | h
    · exact ⟨0, b, Nat.zero_lt_succ _, h⟩
    · obtain ⟨j, b', hj, e⟩ := ih (i + 1) st h
      exact ⟨j + 1, b', Nat.succ_lt_succ hj, by rw [e, Nat.add_assoc, Nat.add_comm 1 j]⟩

variable {a : Addr} {data : List Byte} {s : State}

theorem mem_passes {pr₁ pr₂ : Perm} {st : Step}
    (h : st ∈ protScript a data.length pr₁ ++ copyScript a data ++ protScript a data.length pr₂) :
    (∃ p, st = .mprotect p pr₁ ∨ st = .mprotect p pr₂) ∨
    ∃ j b, j < data.length ∧ st = .store (a + BitVec.ofNat 64 j) b := by
  simp only [protScript, List.mem_append, List.mem_map] at h
  rcases h with (⟨p, _, e⟩ | h) | ⟨p, _, e⟩
  · exact Or.inl ⟨p, Or.inl e.symm⟩
  · obtain ⟨j, b, hj, e⟩ := mem_copyFrom a data 0 st h
    exact Or.inr ⟨j, b, hj, by rw [e, Nat.zero_add]⟩
  · exact Or.inl ⟨p, Or.inr e.symm⟩

theorem script_x {p : Addr} {pr : Perm} (h : Step.mprotect p pr ∈ script a data) : pr.x = true := by
  rcases mem_passes h with ⟨_, e | e⟩ | ⟨_, _, _, e⟩
  · cases e; rfl
  · cases e; rfl
  · cases e

/-- the state a completed write leaves: the visited pages r-x, the data in place -/
def written (a : Addr) (data : List Byte) (s : State) : State :=
  { s with perm := setMany s.perm (pages a data.length) RX, mem := blit s.mem a 0 data }

theorem written_perm (q : Addr) :
    (written a data s).perm q = if q ∈ pages a data.length then some RX else s.perm q := by
  simp only [written, setMany]

theorem written_mem_at (h : NoWrap a data.length) (j : Nat) (hj : j < data.length) :
    (written a data s).mem (a + BitVec.ofNat 64 j) = data[j] := by
  have := blit_at a data 0 s.mem (by unfold NoWrap at h; omega) j hj
  rwa [Nat.zero_add] at this

theorem written_restore {old : List Byte} (hlen : old.length = data.length) (h : NoWrap a old.length)
    (hold : ∀ j (hj : j < old.length), old[j] = s.mem (a + BitVec.ofNat 64 j)) :
    (written a old (written a data s)).mem = s.mem := by
  funext q
  by_cases hq : ∃ j, j < old.length ∧ q = a + BitVec.ofNat 64 j
  · obtain ⟨j, hj, rfl⟩ := hq
    exact (written_mem_at h j hj).trans (hold j hj)
  · have hq' : ∀ j, j < old.length → q ≠ a + BitVec.ofNat 64 (0 + j) :=
      fun j hj e => hq ⟨j, hj, by rw [e, Nat.zero_add]⟩
    exact (blit_frame a q old 0 _ hq').trans (blit_frame a q data 0 _ (hlen ▸ hq'))

theorem mappedAll_written : MappedAll (written a data s) (pages a data.length) :=
  fun p hp => by rw [written_perm, if_pos hp]; rfl

theorem three_passes (pr : Perm) (h : NoWrap a data.length) (hm : MappedAll s (pages a data.length))
    (hw : pr.w = true) (hA : pages a data.length ≠ [] → Allowed s pr) :
    ∃ s1 s2, run s (protScript a data.length pr) = (s1, none) ∧ run s1 (copyScript a data) = (s2, none) ∧
      run s2 (protScript a data.length RX) = (written a data s, none) := by
  refine ⟨_, _, run_prot pr _ s hm hA, run_copy a data 0 _ (fun j hj => ⟨pr, ?_, hw⟩), ?_⟩
  · simp only [setMany, Nat.zero_add, pages_cover a data.length j h hj, if_true]
  · rw [protScript, run_prot RX _ _ (fun p hp => ?_) (fun _ => by simp only [Allowed, RX, Bool.and_false, Bool.false_and])]
    · simp only [setMany_setMany, written]
    · simp only [setMany, hp, if_true, Option.isSome_some]

theorem writeTo_state (h1 : (run s (protScript a data.length RWX)).2 = none) :
    (writeTo a data s).1 = (run s (script a data)).1 := by
  simp only [writeTo, script, List.append_assoc]
  rw [run_append]
  rcases h1' : run s (protScript a data.length RWX) with ⟨s1, _ | e1⟩
  · simp only
    rw [run_append]
    rcases h2 : run s1 (copyScript a data) with ⟨s2, _ | e2⟩
    · simp only
      rcases h3 : run s2 (protScript a data.length RX) with ⟨s3, _ | e3⟩ <;> rfl
    · rfl
  · rw [h1'] at h1; cases h1

theorem fallback_state (e0 : Err) :
    (fallbackWrite a data e0 s).1 = (run s (fallbackScript a data)).1 := by
  simp only [fallbackWrite, fallbackScript, List.append_assoc]
  rw [run_append]
  rcases h1 : run s (protScript a data.length RW) with ⟨s1, _ | e1⟩
  · simp only
    rw [run_append]
    rcases h2 : run s1 (copyScript a data) with ⟨s2, _ | e2⟩
    · simp only
      rcases h3 : run s2 (protScript a data.length RX) with ⟨s3, _ | e3⟩ <;> rfl
    · rfl
  · rfl

theorem writeTo_frame {q : Addr} (hq : ∀ j, j < data.length → q ≠ a + BitVec.ofNat 64 j) :
    (writeTo a data s).1.mem q = s.mem q := by
  have hst : ∀ pr₁ pr₂ b,
      Step.store q b ∉ protScript a data.length pr₁ ++ copyScript a data ++ protScript a data.length pr₂ := by
    intro pr₁ pr₂ b hm
    rcases mem_passes hm with ⟨p, e | e⟩ | ⟨j, b', hj, e⟩
    · cases e
    · cases e
    · cases e; exact hq j hj rfl
  rcases h1 : run s (protScript a data.length RWX) with ⟨s1, _ | e1⟩
  · rw [writeTo_state (by rw [h1])]
    exact run_frame (hst RWX RX)
  · -- the refused RWX pass stored nothing; the fall-back runs from where it stopped
    have hs1 := run_frame (sc := protScript a data.length RWX) (s := s)
      (fun b hm => hst RWX RX b (List.mem_append_left _ (List.mem_append_left _ hm)))
    rw [h1] at hs1
    simp only [writeTo, h1]
    rw [fallback_state, ← hs1]
    exact run_frame (hst RW RX)

/-- normal path or fall-back, whichever the policy dictates -/
theorem writeTo_mapped (h : NoWrap a data.length) (hm : MappedAll s (pages a data.length)) :
    (writeTo a data s).1 = written a data s ∧ (writeTo a data s).2.returned = true ∧
      (s.denyWX = false → (writeTo a data s).2 = Outcome.ok) := by
  by_cases hA : pages a data.length ≠ [] → Allowed s RWX
  · obtain ⟨s1, s2, h1, h2, h3⟩ := three_passes RWX h hm rfl hA
    have hw : writeTo a data s = (written a data s, .ok) := by simp only [writeTo, h1, h2, h3]
    rw [hw]
    exact ⟨rfl, rfl, fun _ => rfl⟩
  · -- some page is visited and RWX is refused there: the fall-back does the same with rw-
    obtain ⟨hne, hnA⟩ := Classical.not_imp.mp hA
    obtain ⟨p0, rest, hp⟩ := List.exists_cons_of_ne_nil hne
    have hd : s.denyWX = true := by
      cases hd : s.denyWX with
      | true => rfl
      | false => exact absurd (allowed_of_no_policy s RWX hd) hnA
    obtain ⟨v, hv⟩ := Option.isSome_iff_exists.mp (hm p0 (by rw [hp]; exact List.mem_cons_self ..))
    have h0 : run s (protScript a data.length RWX) = (s, some (.eacces p0)) :=
      run_prot_refused hp (by simp only [step, hv, hd, RWX, Bool.and_self, if_true])
    obtain ⟨s1, s2, h1, h2, h3⟩ := three_passes RW h hm rfl (fun _ => by simp only [Allowed, RW, Bool.and_false])
    have hw : writeTo a data s = (written a data s, .okFallback (.eacces p0)) := by
      simp only [writeTo, h0, fallbackWrite, h1, h2, h3]
    rw [hw]
    exact ⟨rfl, rfl, fun hf => by rw [hd] at hf; cases hf⟩

theorem writeTo_ok (h : NoWrap a data.length) (hm : MappedAll s (pages a data.length)) (hd : s.denyWX = false) :
    writeTo a data s = (written a data s, Outcome.ok) :=
  Prod.ext (writeTo_mapped h hm).1 ((writeTo_mapped h hm).2.2 hd)

/-- the RWX request and the fall-back's rw- request are both refused at the first page -/
theorem writeTo_unmapped {p0 : Addr} {rest : List Addr} (hp : pages a data.length = p0 :: rest) (h0 : s.perm p0 = none) :
    writeTo a data s = (s, Outcome.panicFallback (Err.enomem p0)) := by
  have hst : ∀ pr, step s (.mprotect p0 pr) = .error (.enomem p0) := fun pr => by simp only [step, h0]
  simp only [writeTo, fallbackWrite, run_prot_refused hp (hst _)]

theorem jump_len (origin to : Addr) : (Gen.Amd64.jmpToFunctionValue origin to).length = 13 := rfl

theorem length_readBytes (s : State) (a : Addr) (n : Nat) : (readBytes s a n).length = n := by
  simp only [readBytes, List.length_map, List.length_range]

theorem getElem_readBytes (s : State) (a : Addr) (n j : Nat) (hj : j < (readBytes s a n).length) :
    (readBytes s a n)[j] = s.mem (a + BitVec.ofNat 64 j) := by
  simp only [readBytes, List.getElem_map, List.getElem_range]

theorem genJumpData_eq (origin to : Addr) (funcSize : Nat) :
    genJumpData origin to funcSize =
      if funcSize ≤ 13 then .error "jumpInstSize-bigger-than-origin-FuncSize"
      else .ok (Gen.Amd64.jmpToFunctionValue origin to) := by
  simp only [genJumpData, jump_len, ge_iff_le]

end C14L
