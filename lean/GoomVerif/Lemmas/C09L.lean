import GoomVerif.Model.ConvertNow
namespace C09L
open Convert

/-! ## today's kind lists (`Convert.K` is rebuilt from arg/value.go on every run; these break when the source changes) -/

/-- the kinds the property statement lists.  `K.nil` (arg/value.go:59-60) has `reflect.Array` besides, about which the
    property claims nothing: hence `K_nil_mem` is an implication. -/
def Nilable (k : Kind) : Prop := k = .ptr ∨ k = .iface ∨ k = .slice ∨ k = .map ∨ k = .chan ∨ k = .func

instance (k : Kind) : Decidable (Nilable k) := by unfold Nilable; infer_instance

theorem K_eq : K = ⟨[.strct, .ptr], [.iface, .ptr, .slice, .map, .arr, .chan, .func], [.iface, .ptr], true⟩ := by
  decide +kernel

/-- build guard, used by nothing: an extracted kind name that `Kind.ofReflectName` does not know stops the build here
    instead of silently shortening a list of `K` -/
theorem K_names_understood : K_complete = true := by decide +kernel

theorem K_nil_mem {k : Kind} (h : Nilable k) : k ∈ K.nil := by
  rw [K_eq]
  rcases h with rfl | rfl | rfl | rfl | rfl | rfl <;> decide

theorem K_cast_mem {k : Kind} : k ∈ K.cast ↔ (k = .strct ∨ k = .ptr) := by simp [K_eq]

theorem K_v2i_mem {k : Kind} : k ∈ K.v2i ↔ (k = .iface ∨ k = .ptr) := by simp [K_eq]

theorem K_castNilSafe : K.castNilSafe = true := by rw [K_eq]

/-- `named` is transparent to kind, size, zero value and representation; under it the constructor decides all four -/
theorem nilable_shape : ∀ t : Ty, Nilable t.kind →
    t.size ≠ 0 ∧ zeroVal t = (if t.kind = .iface then .ifaceNil else .nilp) ∧ (t.kind = .iface → t.isDirect = false)
  | .named _ _ _ u, h => nilable_shape u h
  | .prim p, h => absurd h (by cases p <;> decide)
  | .arr _ _, h => absurd h (by decide : ¬ Nilable .arr)
  | .strct _ _ _, h => absurd h (by decide : ¬ Nilable .strct)
  | .slice _, _ | .map _ _, _ | .ptr _, _ | .chan _ _, _ | .func _, _ => ⟨Nat.succ_ne_zero _, rfl, fun h => by cases h⟩
  | .iface _, _ => ⟨Nat.succ_ne_zero _, rfl, fun _ => rfl⟩

theorem nilable_size_pos {t : Ty} (h : Nilable t.kind) : t.size ≠ 0 := (nilable_shape t h).1

theorem zeroVal_iface {t : Ty} (h : t.kind = .iface) : zeroVal t = .ifaceNil := by
  rw [(nilable_shape t (.inr (.inl h))).2.1, if_pos h]

theorem iface_not_direct {t : Ty} (h : t.kind = .iface) : t.isDirect = false :=
  (nilable_shape t (.inr (.inl h))).2.2 h

theorem zeroVals_repl (n : Nat) (v : Val) (h : isZeroVal v = true) : isZeroVals (Vals.repl n v) = true := by
  induction n with
  | zero => rfl
  | succ k ih => simp only [Vals.repl, isZeroVals, h, ih, if_true]

mutual
theorem zeroVal_isZero : ∀ t : Ty, isZeroVal (zeroVal t) = true
  | .prim p => by cases p <;> rfl
  | .arr n e => zeroVals_repl n _ (zeroVal_isZero e)
  | .strct _ _ fs => zeroVals_isZero fs
  | .named _ _ _ u => zeroVal_isZero u
  | .iface _ | .slice _ | .map _ _ | .ptr _ | .chan _ _ | .func _ => rfl
theorem zeroVals_isZero : ∀ fs : Tys, isZeroVals (zeroVals fs) = true
  | .nil => rfl
  | .cons _ t r => by simp only [zeroVals, isZeroVals, zeroVal_isZero t, zeroVals_isZero r, if_true]
end

theorem directlyAssignable_self (t : Ty) : directlyAssignable t t = true := by simp [directlyAssignable]

theorem implements_kind (T V : Ty) (h : implements T V = true) : T.kind = .iface := by
  simp [implements] at h; exact h.1

theorem standin_not_iface {k : Kind} (h : k = .strct ∨ k = .ptr) : k ≠ .iface := by
  rcases h with rfl | rfl <;> decide

theorem asIs_wellFlagged (t : Ty) (x : Val) : (⟨t, t.kind, !t.isDirect, x⟩ : RV).wellFlagged = true := by
  simp [RV.wellFlagged]

theorem zeroRV_wellFlagged (t : Ty) : (zeroRV t).wellFlagged = true := asIs_wellFlagged t _

theorem boxed_wellFlagged {out : Ty} (hk : out.kind = .iface) (x : Val) :
    (⟨out, .iface, true, x⟩ : RV).wellFlagged = true := by
  simp [RV.wellFlagged, hk, iface_not_direct hk]

theorem toBoxed_of_kindOK {t : Ty} {fk k : Kind} {i : Bool} {x : Val} (hx : x.kindOK k = true) (hk : k ≠ .iface) :
    RV.toBoxed ⟨t, fk, i, x⟩ = some (t, x) := by
  cases x with
  | ifaceNil | ifaceOf _ _ => simp [Val.kindOK, hk] at hx
  | _ => rfl

theorem isZeroVal_ptr {x : Val} (hx : x.kindOK .ptr = true) : isZeroVal x = true ↔ x = .nilp := by
  cases x <;> simp_all [Val.kindOK, isZeroVal]


mutual
/-- the type with every type name, method set and field name erased (element types, signatures, channel directions stay).
    Equal erasures have equal kind, alignment, size and representation class (`erase_layout`); the converse fails
    (`*int32` and `*int64`). -/
def erase : Ty → Ty
  | .prim p => .prim p
  | .arr n e => .arr n (erase e)
  | .slice e => .slice (erase e)
  | .map k v => .map (erase k) (erase v)
  | .ptr e => .ptr (erase e)
  | .chan d e => .chan d (erase e)
  | .func s => .func s
  | .strct _ _ fs => .strct [] [] (erases fs)
  | .iface ms => .iface ms
  | .named _ _ _ u => erase u
def erases : Tys → Tys
  | .nil => .nil
  | .cons _ t r => .cons "" (erase t) (erases r)
end

mutual
theorem erase_layout : ∀ t : Ty, (erase t).kind = t.kind ∧ (erase t).align = t.align ∧ (erase t).size = t.size ∧
    (erase t).isDirect = t.isDirect
  | .named _ _ _ u => erase_layout u
  | .arr _ e => by
      have ih := erase_layout e
      simp only [erase, Ty.kind, Ty.align, Ty.size, Ty.isDirect, ih.2.1, ih.2.2.1, ih.2.2.2, and_self]
  | .strct _ _ fs => by
      have ih := erases_layout fs
      simp only [erase, Ty.kind, Ty.align, Ty.size, Ty.isDirect, ih.1, ih.2.1, ih.2.2, and_self]
  | .prim _ | .slice _ | .map _ _ | .ptr _ | .chan _ _ | .func _ | .iface _ => ⟨rfl, rfl, rfl, rfl⟩
theorem erases_layout : ∀ fs : Tys, (erases fs).maxAlign = fs.maxAlign ∧
    (∀ off, (erases fs).endOff off = fs.endOff off) ∧ (erases fs).isDirect1 = fs.isDirect1
  | .nil => ⟨rfl, fun _ => rfl, rfl⟩
  | .cons _ t .nil => by
      have ih := erase_layout t
      simp only [erases, Tys.maxAlign, Tys.endOff, Tys.isDirect1, ih.2.1, ih.2.2.1, ih.2.2.2, implies_true, and_self]
  | .cons _ t (.cons n2 t2 r) => by
      have ih := erase_layout t
      have ihr := erases_layout (.cons n2 t2 r)
      refine ⟨?_, fun off => ?_, rfl⟩
      · simp only [erases, Tys.maxAlign, ih.2.1] at ihr ⊢
        rw [ihr.1]
      · have := ihr.2.1 (roundUp off t.align + t.size)
        simp only [erases, Tys.endOff, ih.2.1, ih.2.2.1] at this ⊢
        exact this
end

theorem erases_endOff : ∀ (fs : Tys) (off : Nat), (erases fs).endOff off = fs.endOff off :=
  fun fs => (erases_layout fs).2.1

theorem erases_isDirect1 : ∀ fs : Tys, (erases fs).isDirect1 = fs.isDirect1 :=
  fun fs => (erases_layout fs).2.2

/-! ## `toValue` on a non-nil value: the stand-in branch (arg/value.go:51-57 taken) and the ordinary one -/

section
variable {t out : Ty} {x : Val} {v : RV}

theorem toValue_standin (x : Val) (hne : t ≠ out) (hk : out.kind = .strct ∨ out.kind = .ptr) :
    toValue K (some (t, x)) out =
      if t.size ≠ out.size then .error .errSize
      else if isIContextPtr out = true then .error .panicIContext
      else .ok ⟨out, t.kind, !t.isDirect, x⟩ := by
  have hm : out.kind ∈ K.cast := K_cast_mem.2 hk
  by_cases hs : t.size = out.size
  · -- `cast` cannot fail (`K.castNilSafe`) and yields type `out`: the interface arm is closed to a struct/pointer kind
    -- and the second size test compares `out` with itself
    simp [toValue, hne, hm, hs, Convert.cast, K_castNilSafe, standin_not_iface hk]
  · simp [toValue, hne, hm, hs]

theorem toValue_ordinary (x : Val) (h : ¬ (t ≠ out ∧ (out.kind = .strct ∨ out.kind = .ptr))) :
    toValue K (some (t, x)) out =
      if isIContextPtr t = true then .error .panicIContext
      else if out.kind = .iface then
        (if implements out t = true then .ok ⟨out, .iface, true, .ifaceOf t x⟩ else .error .panicAssign)
      else if t.size ≠ out.size then .error .errSize
      else .ok ⟨t, t.kind, !t.isDirect, x⟩ := by
  have h' : ¬ (t ≠ out ∧ K.cast.contains out.kind = true) := by rwa [List.contains_iff_mem, K_cast_mem]
  simp only [toValue, if_neg h']

theorem toValue_iface (x : Val) (hk : out.kind = .iface) :
    toValue K (some (t, x)) out =
      if isIContextPtr t = true then .error .panicIContext
      else if implements out t = true then .ok ⟨out, .iface, true, .ifaceOf t x⟩ else .error .panicAssign := by
  rw [toValue_ordinary x fun h => standin_not_iface h.2 hk, if_pos hk]

theorem toValue_nil_ok (h : Nilable out.kind) : toValue K none out = .ok (zeroRV out) := by
  simp [toValue, K_nil_mem h]

theorem ite_error_eq_ok {α : Type} {c : Prop} [Decidable c] {e : Fail} {x : Res α} {v : α} :
    (if c then .error e else x) = .ok v ↔ ¬ c ∧ x = .ok v := by
  by_cases h : c <;> simp [h]

/-- the three ways a non-nil value is accepted: retyped (stand-in), boxed into an interface, kept as it is -/
theorem toValue_ok_cases (h : toValue K (some (t, x)) out = .ok v) :
    (v = ⟨out, t.kind, !t.isDirect, x⟩ ∧ t ≠ out ∧ (out.kind = .strct ∨ out.kind = .ptr) ∧ t.size = out.size ∧
      isIContextPtr out = false) ∨
    (v = ⟨out, .iface, true, .ifaceOf t x⟩ ∧ out.kind = .iface) ∨
    (v = ⟨t, t.kind, !t.isDirect, x⟩ ∧ out.kind ≠ .iface ∧ t.size = out.size) := by
  by_cases hc : t ≠ out ∧ (out.kind = .strct ∨ out.kind = .ptr)
  · rw [toValue_standin x hc.1 hc.2, ite_error_eq_ok, ite_error_eq_ok] at h
    exact .inl ⟨(Except.ok.inj h.2.2).symm, hc.1, hc.2, Decidable.of_not_not h.1, Bool.eq_false_iff.2 h.2.1⟩
  · rw [toValue_ordinary x hc, ite_error_eq_ok] at h
    by_cases hk : out.kind = .iface
    · rw [if_pos hk] at h
      by_cases himp : implements out t = true
      · rw [if_pos himp] at h
        exact .inr (.inl ⟨(Except.ok.inj h.2).symm, hk⟩)
      · rw [if_neg himp] at h
        cases h.2
    · rw [if_neg hk, ite_error_eq_ok] at h
      exact .inr (.inr ⟨(Except.ok.inj h.2.2).symm, hk, Decidable.of_not_not h.2.1⟩)


theorem toValue_size_mismatch (hs : t.size ≠ out.size) (hk : out.kind ≠ .iface) : toValue K (some (t, x)) out ≠ .ok v := by
  intro h
  rcases toValue_ok_cases h with ⟨_, _, _, hs', _⟩ | ⟨_, hk'⟩ | ⟨_, _, hs'⟩
  · exact hs hs'
  · exact hk hk'
  · exact hs hs'
end

theorem typeAt_nonvariadic (types : List Ty) (j : Nat) (hj : j < types.length) :
    I2V.typeAt types false j = some (.ok types[j]) := by
  simp only [I2V.typeAt]
  split
  · simp [List.getElem?_eq_getElem hj]
  · have : types.length - 1 = j := by omega
    simp [List.getLast?_eq_getElem?, this, List.getElem?_eq_getElem hj]

theorem convAt_nonvariadic (types : List Ty) (j : Nat) (hj : j < types.length) (a : Boxed) :
    I2V.convAt K types false j a = toValue K a types[j] := by
  simp only [I2V.convAt, typeAt_nonvariadic types j hj]

section
variable {r : Boxed} {out : Ty} {v : RV}

theorem I2V_single (r : Boxed) (out : Ty) :
    I2V K [r] [out] false = (match toValue K r out with | .ok v => .ok [v] | .error e => .error e) := by
  simp only [I2V, I2V.go, convAt_nonvariadic [out] 0 Nat.one_pos, List.getElem_cons_zero]
  cases h : toValue K r out <;> simp

theorem deliver_single (v : RV) (out : Ty) :
    deliver [v] [out] = (deliver1 v out).map (fun a => [a]) := by
  simp only [deliver]
  cases deliver1 v out <;> simp

theorem returnE2E_single (r : Boxed) (out : Ty) :
    returnE2E K [r] [out] =
      (match toValue K r out with
       | .error e => .cfgPanic e
       | .ok v => if v.wellFlagged = false then .callUnmodelled
                  else match deliver1 v out with
                    | none => .callPanic
                    | some a => .got [a]) := by
  simp only [returnE2E, I2V_single]
  cases h : toValue K r out with
  | error e => simp
  | ok v =>
    simp only [List.length_cons, List.length_nil, Nat.lt_irrefl, if_false, List.any_cons, List.any_nil, Bool.or_false,
      deliver_single]
    cases hw : v.wellFlagged <;> simp
    cases deliver1 v out <;> simp

/-- `hs`: a result of size 0 is not copied by `callReflect`; `deliver1` answers `zeroRV` for it, whatever `v` is -/
theorem deliver1_self (hw : v.wellFlagged = true) (hs : v.ty.size ≠ 0) : deliver1 v v.ty = some v := by
  obtain ⟨ty, fk, indir, val⟩ := v
  simp only [RV.wellFlagged, Bool.and_eq_true, beq_iff_eq] at hw
  simp [deliver1, hs, directlyAssignable_self, hw.1]

theorem deliver1_zeroRV (h : Nilable out.kind) : deliver1 (zeroRV out) out = some (zeroRV out) :=
  deliver1_self (v := zeroRV out) (zeroRV_wellFlagged out) (nilable_size_pos h)

theorem returnE2E_of_ok (h : toValue K r out = .ok v) (ht : v.ty = out)
    (hw : v.wellFlagged = true) (hs : out.size ≠ 0) : returnE2E K [r] [out] = .got [v] := by
  subst ht
  simp only [returnE2E_single, h, hw, deliver1_self hw hs, Bool.true_eq_false, if_false]

theorem returnE2E_single_got {rs : List RV} (h : returnE2E K [r] [out] = .got rs) :
    ∃ w a, toValue K r out = .ok w ∧ w.wellFlagged = true ∧ deliver1 w out = some a ∧ rs = [a] := by
  rw [returnE2E_single] at h
  split at h
  · cases h
  · rename_i w hw
    split at h
    · cases h
    · rename_i hwf
      split at h
      · cases h
      · rename_i a ha
        exact ⟨w, a, hw, eq_true_of_ne_false hwf, ha, (CallRes.got.inj h).symm⟩

theorem returnE2E_of_error {e : Fail} (h : toValue K r out = .error e) :
    returnE2E K [r] [out] = .cfgPanic e := by
  rw [returnE2E_single, h]

end

theorem deliver_pointwise : ∀ (vs : List RV) (outs : List Ty) (rs : List RV), deliver vs outs = some rs →
    rs.length = outs.length ∧ vs.length = outs.length ∧
    ∀ j, j < outs.length → ∃ v o a, vs[j]? = some v ∧ outs[j]? = some o ∧ rs[j]? = some a ∧ deliver1 v o = some a := by
  intro vs
  induction vs with
  | nil =>
    intro outs rs h
    cases outs with
    | nil => cases h; exact ⟨rfl, rfl, fun j hj => absurd hj (Nat.not_lt_zero j)⟩
    | cons o os => cases h
  | cons v vs ih =>
    intro outs rs h
    cases outs with
    | nil => cases h
    | cons o os =>
      simp only [deliver, Option.bind_eq_bind, Option.bind_eq_some_iff, Option.pure_def, Option.some.injEq] at h
      obtain ⟨a, h1, r, h2, rfl⟩ := h
      obtain ⟨i1, i2, i3⟩ := ih os r h2
      refine ⟨congrArg (· + 1) i1, congrArg (· + 1) i2, fun j hj => ?_⟩
      cases j with
      | zero => exact ⟨v, o, a, rfl, rfl, rfl, h1⟩
      | succ k => exact i3 k (Nat.lt_of_succ_lt_succ hj)

/-- Conversion of a list from position `i` on, stopping at the first failure: the common shape of `I2V.go`
    (`f` = conversion at the type of the position), `seqConfigure` (`f` = `I2V` of a group) and `whenConfigure`. -/
def convAll {α β : Type} (f : Nat → α → Res β) : Nat → List α → Res (List β)
  | _, [] => .ok []
  | i, a :: as =>
    match f i a with
    | .error e => .error e
    | .ok v => match convAll f (i + 1) as with
      | .error e => .error e
      | .ok vs => .ok (v :: vs)

theorem go_eq_convAll (K : KindLists) (types : List Ty) (b : Bool) (objs : List Boxed) (i : Nat) :
    I2V.go K types b i objs = convAll (I2V.convAt K types b) i objs := by
  induction objs generalizing i with
  | nil => rfl
  | cons a as ih =>
    simp only [I2V.go, convAll, ih]
    cases I2V.convAt K types b i a with
    | error _ => rfl
    | ok _ => cases convAll (I2V.convAt K types b) (i + 1) as <;> rfl

theorem I2V_ok {objs : List Boxed} {types : List Ty} {b : Bool} {vs : List RV} (h : I2V K objs types b = .ok vs) :
    convAll (I2V.convAt K types b) 0 objs = .ok vs := by
  rw [I2V] at h
  split at h
  · cases h
  · rwa [go_eq_convAll] at h

theorem seqConfigure_eq_convAll (K : KindLists) (outs : List Ty) (gs : List PairRet) :
    seqConfigure K outs gs = convAll (fun _ g => I2V K g.results outs false) 0 gs := by
  generalize 0 = i
  induction gs generalizing i with
  | nil => rfl
  | cons g gs ih =>
    simp only [seqConfigure, convAll, ih (i + 1)]
    cases I2V K g.results outs false with
    | error _ => rfl
    | ok _ => cases convAll (fun _ g => I2V K g.results outs false) (i + 1) gs <;> rfl

theorem whenConfigure_eq_convAll (K : KindLists) (ps : List (Boxed × Ty)) :
    whenConfigure K ps = convAll (fun _ p => toValue K p.1 p.2) 0 ps := by
  generalize 0 = i
  induction ps generalizing i with
  | nil => rfl
  | cons p ps ih =>
    simp only [whenConfigure, convAll, ih (i + 1)]
    cases toValue K p.1 p.2 with
    | error _ => rfl
    | ok _ => cases convAll (fun _ p => toValue K p.1 p.2) (i + 1) ps <;> rfl

section
variable {α β : Type} {f : Nat → α → Res β} {as : List α} {i : Nat}

theorem convAll_ok {vs : List β} (h : convAll f i as = .ok vs) :
    vs.length = as.length ∧
    ∀ j, j < as.length → ∃ a v, as[j]? = some a ∧ vs[j]? = some v ∧ f (i + j) a = .ok v := by
  induction as generalizing i vs with
  | nil => cases h; exact ⟨rfl, fun j hj => absurd hj (Nat.not_lt_zero j)⟩
  | cons a as ih =>
    simp only [convAll] at h
    cases h1 : f i a with
    | error e => rw [h1] at h; cases h
    | ok w =>
      cases h2 : convAll f (i + 1) as with
      | error e => rw [h1, h2] at h; cases h
      | ok ws =>
        rw [h1, h2] at h
        cases h
        obtain ⟨hl, hp⟩ := ih h2
        refine ⟨congrArg (· + 1) hl, fun j hj => ?_⟩
        cases j with
        | zero => exact ⟨a, w, rfl, rfl, h1⟩
        | succ k => exact Nat.add_right_comm i 1 k ▸ hp k (Nat.lt_of_succ_lt_succ hj)

theorem convAll_error {e : Fail} (h : convAll f i as = .error e) :
    ∃ j a, as[j]? = some a ∧ f (i + j) a = .error e ∧
      ∀ k, k < j → ∃ c v, as[k]? = some c ∧ f (i + k) c = .ok v := by
  induction as generalizing i with
  | nil => cases h
  | cons a as ih =>
    simp only [convAll] at h
    cases h1 : f i a with
    | error e' =>
      rw [h1] at h
      cases h
      exact ⟨0, a, rfl, h1, fun k hk => absurd hk (Nat.not_lt_zero k)⟩
    | ok w =>
      cases h2 : convAll f (i + 1) as with
      | ok ws => rw [h1, h2] at h; cases h
      | error e' =>
        rw [h1, h2] at h
        cases h
        obtain ⟨j, a', hj, hf, hb⟩ := ih h2
        refine ⟨j + 1, a', hj, Nat.add_right_comm i 1 j ▸ hf, fun k hk => ?_⟩
        cases k with
        | zero => exact ⟨a, w, rfl, h1⟩
        | succ k => exact Nat.add_right_comm i 1 k ▸ hb k (Nat.lt_of_succ_lt_succ hk)

theorem convAll_error_of_first {e : Fail} (j : Nat) (a : α) (hj : as[j]? = some a)
    (hf : f (i + j) a = .error e) (hb : ∀ k, k < j → ∃ c v, as[k]? = some c ∧ f (i + k) c = .ok v) :
    convAll f i as = .error e := by
  induction as generalizing i j with
  | nil => cases hj
  | cons a0 as ih =>
    cases j with
    | zero =>
      cases hj
      simp only [convAll, show f i a = .error e from hf]
    | succ j =>
      obtain ⟨c, v, hc, hv⟩ := hb 0 (Nat.succ_pos j)
      cases hc
      have ht : convAll f (i + 1) as = .error e :=
        ih j hj (Nat.add_right_comm i 1 j ▸ hf) fun k hk =>
          Nat.add_right_comm i 1 k ▸ hb (k + 1) (Nat.succ_lt_succ hk)
      simp only [convAll, show f i a0 = .ok v from hv, ht]
end

section
variable {objs : List Boxed} {pre : List Ty} {last elem : Ty}

theorem typeAt_variadic (pre : List Ty) (last : Ty) (j : Nat) :
    I2V.typeAt (pre ++ [last]) true j = some (if h : j < pre.length then .ok pre[j] else last.elem?) := by
  simp only [I2V.typeAt, List.length_append, List.length_singleton, Nat.add_lt_add_iff_right]
  split
  · next hj => simp [List.getElem?_append_left hj, List.getElem?_eq_getElem hj]
  · simp

theorem convAt_variadic (hlast : last.elem? = .ok elem) (j : Nat) (a : Boxed) :
    I2V.convAt K (pre ++ [last]) true j a = toValue K a (if h : j < pre.length then pre[j] else elem) := by
  rw [I2V.convAt, typeAt_variadic]
  by_cases hjp : j < pre.length
  · rw [dif_pos hjp, dif_pos hjp]
  · rw [dif_neg hjp, dif_neg hjp, hlast]

theorem I2V_variadic (hlast : last.elem? = .ok elem)
    (hn : pre.length ≤ objs.length) :
    I2V K objs (pre ++ [last]) true =
      convAll (fun j a => toValue K a (if h : j < pre.length then pre[j] else elem)) 0 objs := by
  have hc : ¬ objs.length < (pre ++ [last]).length - 1 := by simp; omega
  have hf : I2V.convAt K (pre ++ [last]) true = fun j a => toValue K a (if h : j < pre.length then pre[j] else elem) :=
    funext fun j => funext fun a => convAt_variadic hlast j a
  simp only [I2V, Bool.true_and, Bool.not_true, Bool.false_and, Bool.or_false, decide_eq_true_eq, hc, if_false,
    go_eq_convAll, hf]

theorem I2V_variadic_tail {vs : List RV} {j : Nat} {a : Boxed}
    (hlast : last.elem? = .ok elem) (h : I2V K objs (pre ++ [last]) true = .ok vs) (hj : pre.length ≤ j)
    (ha : objs[j]? = some a) : ∃ v, vs[j]? = some v ∧ toValue K a elem = .ok v := by
  have hjl : j < objs.length := (List.getElem?_eq_some_iff.1 ha).1
  rw [I2V_variadic hlast (Nat.le_trans hj (Nat.le_of_lt hjl))] at h
  obtain ⟨a', v, h1, h2, h3⟩ := (convAll_ok h).2 j hjl
  cases ha.symm.trans h1
  simp only [Nat.zero_add, dif_neg (Nat.not_lt.2 hj)] at h3
  exact ⟨v, h2, h3⟩
end

end C09L
