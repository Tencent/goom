import GoomVerif.Model.Equal
import GoomVerif.Model.ShareC18
import Std.Data.String.ToInt
/-! Specification `goEq` (Go's own equality on the value universe) and the domain predicates of C18; `equal` against it
    (`equal_spec`) and read from the other side (`equal_symm`); `rwf`: what `Resolve` returns, under which `Eval` is total. -/
namespace C18L
open C18M

/-- Equality of two non-nil values of one type at a *scalar position* (the value itself, or what one pointer / interface
    holds): Go `==` on bool/integer/float/string, identity on funcs (same function and same captured state),
    `reflect.DeepEqual` on everything else (struct, array, slice, map, and a pointee that is itself a pointer/interface). -/
def goEq1 : Val → Val → Bool
  | .bool _ a, .bool _ b => a == b
  | .int _ _ a, .int _ _ b => a == b
  | .flt _ w a _, .flt _ _ b _ => fltEq w a b
  | .str _ a _ _, .str _ b _ _ => a == b
  | .nilfunc _, .nilfunc _ => true
  | .func _ c e, .func _ c' e' => c == c' && e == e'
  | .nilfunc _, .func .. => false
  | .func .., .nilfunc _ => false
  | v, w => deepEqual (toIface v) (toIface w)

def goEq (x a : Val) : Bool :=
  if isNil (some x) && isNil (some a) then true
  else if isNil (some x) || isNil (some a) then false
  else match x, a with
    | .ptr _ _ v, .ptr _ _ w => goEq1 v w
    | .iface _ v, .iface _ w => goEq1 v w
    | v, w => goEq1 v w

/-- Same type and the same representation class (what equal type names mean for real Go values). -/
def sameShape1 : Val → Val → Bool
  | .bool t _, .bool t' _ => t == t'
  | .int t s _, .int t' s' _ => t == t' && s == s'
  | .flt t w _ _, .flt t' w' _ _ => t == t' && w == w'
  | .str t _ _ _, .str t' _ _ _ => t == t'
  | .strct t _, .strct t' _ => t == t'
  | .arr t _, .arr t' _ => t == t'
  | .nilslice t, .nilslice t' | .nilslice t, .slice t' _ _ | .slice t _ _, .nilslice t' | .slice t _ _, .slice t' _ _ => t == t'
  | .nilmap t, .nilmap t' | .nilmap t, .map t' _ _ _ | .map t _ _ _, .nilmap t' | .map t _ _ _, .map t' _ _ _ => t == t'
  | .nilptr t, .nilptr t' | .nilptr t, .ptr t' _ _ | .ptr t _ _, .nilptr t' | .ptr t _ _, .ptr t' _ _ => t == t'
  | .nilif t, .nilif t' | .nilif t, .iface t' _ | .iface t _, .nilif t' | .iface t _, .iface t' _ => t == t'
  | .nilfunc t, .nilfunc t' | .nilfunc t, .func t' _ _ | .func t _ _, .nilfunc t' | .func t _ _, .func t' _ _ => t == t'
  | _, _ => false

/-- Same static type, and the same dynamic type where the value is (or points to) an interface position. -/
def sameDyn : Val → Val → Bool
  | .ptr t _ v, .ptr t' _ w => t == t' && sameShape1 v w
  | .iface t v, .iface t' w => t == t' && sameShape1 v w
  | x, a => sameShape1 x a

/-- The stated assumption about `fmt` and the "ordinary floating-point" restriction, on one pair at a scalar position:
    neither is NaN, they are not the pair +0 and -0, and their `%v` texts are equal iff their bit patterns are
    (fmt prints the shortest decimal that round-trips, so distinct non-NaN floats of one width print differently). -/
def ordinary1 : Val → Val → Prop
  | .flt _ w a ta, .flt _ _ b tb =>
      isNaN w a = false ∧ isNaN w b = false ∧ ¬ (isZeroF w a = true ∧ isZeroF w b = true ∧ a ≠ b) ∧ (ta = tb ↔ a = b)
  | .func _ c _, .nilfunc _ => c ≠ 0          -- a real function has a non-zero code pointer
  | .nilfunc _, .func _ c _ => c ≠ 0
  | _, _ => True

def Ordinary : Val → Val → Prop
  | .ptr _ _ v, .ptr _ _ w => ordinary1 v w
  | .iface _ v, .iface _ w => ordinary1 v w
  | x, a => ordinary1 x a

/-- The excluded case of the known finding `C18-closure-code-identity`: two funcs with the same code but different
    captured state. -/
def closureAlias1 : Val → Val → Bool
  | .func _ c e, .func _ c' e' => c == c' && e != e'
  | _, _ => false

def closureAlias : Val → Val → Bool
  | .ptr _ _ v, .ptr _ _ w => closureAlias1 v w
  | .iface _ v, .iface _ w => closureAlias1 v w
  | x, a => closureAlias1 x a

/-! A same-typed pair is split with `fun_cases sameShape1` (the 26 pairs of constructors of one kind; elsewhere `sameShape1` is
`false`), not with `cases` on both values (256 goals).  On constructor terms `cascade`, `goEq1`, … compute. -/

theorem repr_beq (a b : Int) : (Int.repr a == Int.repr b) = (a == b) :=
  Bool.eq_iff_iff.mpr (by rw [beq_iff_eq, beq_iff_eq, Int.repr_inj])

theorem fltEq_symm (w : Bool) (a b : Nat) : fltEq w a b = fltEq w b a := by
  simp only [fltEq, Bool.and_comm (x := !isNaN w a), Bool.and_comm (x := isZeroF w a), BEq.comm (a := a)]

theorem and_mono {a a' b b' : Bool} (ha : a = true → a' = true) (hb : b = true → b' = true) (h : (a && b) = true) :
    (a' && b') = true :=
  Bool.and_eq_true _ _ ▸ ⟨ha (Bool.and_eq_true _ _ ▸ h).1, hb (Bool.and_eq_true _ _ ▸ h).2⟩

theorem or_mono {a a' b b' : Bool} (ha : a = true → a' = true) (hb : b = true → b' = true) (h : (a || b) = true) :
    (a' || b') = true :=
  Bool.or_eq_true _ _ ▸ (Bool.or_eq_true _ _ ▸ h).imp ha hb

theorem id_swap {i j : Nat} (h : (i != 0 && i == j) = true) : (j != 0 && j == i) = true := by
  rw [Bool.and_eq_true, beq_iff_eq] at h ⊢
  exact ⟨h.2 ▸ h.1, h.2.symm⟩

/-- The implication, not the equation: on pairs of different constructors it is vacuous.  Every clause of `deepEq` is a
    conjunction/disjunction of comparisons, each read from the other side. -/
theorem deepEq_swap :
    (∀ x y, deepEq x y = true → deepEq y x = true) ∧ (∀ f g, deepEqs f g = true → deepEqs g f = true) := by
  refine deepEq.mutual_induct_unfolding
    (fun x y b => b = true → deepEq y x = true) (fun f g b => b = true → deepEqs g f = true)
    ?bool ?int ?flt ?str ?strct ?arr ?nilslice ?slice ?nilmap ?map ?nilptr ?ptr ?nilif ?iface ?nilfunc ?other ?nil ?cons ?others
  case other | others => nofun
  case nil => exact id
  case bool => exact fun _ _ _ _ => and_mono BEq.symm BEq.symm
  case str => exact fun _ _ _ _ _ _ _ _ => and_mono BEq.symm BEq.symm
  case int => exact fun _ _ _ _ _ _ => and_mono (and_mono BEq.symm BEq.symm) BEq.symm
  case flt =>
    intro t1 w a _ t2 w' b _ h
    obtain rfl : w = w' := eq_of_beq (Bool.and_eq_true _ _ ▸ (Bool.and_eq_true _ _ ▸ h).1).2
    exact and_mono (and_mono BEq.symm BEq.symm) (fltEq_symm w a b ▸ id) h
  case strct | arr => exact fun _ _ _ _ ih => and_mono BEq.symm ih
  case nilslice | nilmap | nilptr | nilif | nilfunc => exact fun _ _ => BEq.symm
  case slice => exact fun _ _ _ _ _ _ ih => and_mono BEq.symm (or_mono (and_mono id_swap BEq.symm) ih)
  case map => exact fun _ _ _ _ _ _ _ _ ihk ihv => and_mono BEq.symm (or_mono id_swap (and_mono ihk ihv))
  case ptr => exact fun _ _ _ _ _ _ ih => and_mono BEq.symm (or_mono id_swap ih)
  case iface => exact fun _ _ _ _ ih => and_mono BEq.symm ih
  case cons => exact fun _ _ _ _ ih ihs => and_mono ih ihs

theorem deepEq_symm : ∀ (x y : Val), deepEq x y = deepEq y x :=
  fun x y => Bool.eq_iff_iff.mpr ⟨deepEq_swap.1 x y, deepEq_swap.1 y x⟩

theorem deepEqs_symm : ∀ (x y : Vals), deepEqs x y = deepEqs y x :=
  fun x y => Bool.eq_iff_iff.mpr ⟨deepEq_swap.2 x y, deepEq_swap.2 y x⟩

theorem deepEqual_symm (x y : Option Val) : deepEqual x y = deepEqual y x := by
  cases x <;> cases y <;> first | rfl | exact deepEq_symm _ _

theorem cascade_spec (l r : Val) : sameShape1 l r = true → ordinary1 l r → closureAlias1 l r = false →
    cascade (some l) (some r) = .ok (goEq1 l r) := by
  fun_cases sameShape1 l r
  case case27 => nofun   -- not one of the 26 pairs: `sameShape1` is `false`
  all_goals intro hs ho hc
  case case2 t s a t' s' b => exact congrArg Res.ok (repr_beq a b)   -- int, int: through their `%v` text
  case case3 t w a ta t' w' b tb =>   -- flt, flt: through their `%v` text
    obtain ⟨hna, hnb, hz, htx⟩ := ho
    show Res.ok (ta == tb) = .ok (fltEq w a b)
    rw [fltEq, hna, hnb]
    by_cases hab : a = b
    · rw [beq_iff_eq.mpr (htx.mpr hab), beq_iff_eq.mpr hab]; rfl
    · rw [beq_eq_false_iff_ne.mpr (mt htx.mp hab), beq_eq_false_iff_ne.mpr hab]
      cases hza : isZeroF w a <;> cases hzb : isZeroF w b <;> first | rfl | exact (hz ⟨hza, hzb, hab⟩).elim
  case case4 t a _ _ t' b _ _ =>   -- str, str: `DeepEqual`, which also compares the types
    show Res.ok (t == t' && a == b) = .ok (a == b)
    rw [hs, Bool.true_and]
  case case24 => exact congrArg Res.ok (beq_eq_false_iff_ne.mpr (Ne.symm ho))   -- nilfunc, func
  case case25 => exact congrArg Res.ok (beq_eq_false_iff_ne.mpr ho)   -- func, nilfunc
  case case26 t c e t' c' e' =>   -- func, func: code pointers only
    show Res.ok (c == c') = .ok (c == c' && e == e')
    cases hcc : c == c'
    · rfl
    · rw [closureAlias1, hcc, Bool.true_and, bne_eq_false_iff_eq] at hc
      rw [hc, beq_self_eq_true]; rfl
  all_goals rfl   -- bool, nilfunc/nilfunc and the composite kinds: both sides compute to the same comparison

theorem cascade_symm (l r : Val) : sameShape1 l r = true → cascade (some l) (some r) = cascade (some r) (some l) := by
  fun_cases sameShape1 l r
  case case27 => nofun
  all_goals intro _
  -- bool, int, flt and the four func pairs compare two texts, Booleans or code pointers; the rest is `DeepEqual`
  case case1 | case2 | case3 | case23 | case24 | case25 | case26 => exact congrArg Res.ok BEq.comm
  all_goals exact congrArg Res.ok (deepEqual_symm _ _)

theorem equal_nil {l r : Option Val} (h : (isNil l || isNil r) = true) : equal l r = .ok (isNil l && isNil r) := by
  unfold equal
  cases hl : isNil l <;> cases hr : isNil r <;> first | rfl | simp [hl, hr] at h

theorem equal_nonnil {l r : Option Val} (hl : isNil l = false) (hr : isNil r = false) :
    equal l r = cascade (elemIfPtrOrIface l) (elemIfPtrOrIface r) := by
  unfold equal
  rw [hl, hr]; rfl

theorem goEq_nil {x a : Val} (h : (isNil (some x) || isNil (some a)) = true) :
    goEq x a = (isNil (some x) && isNil (some a)) := by
  unfold goEq
  cases hl : isNil (some x) <;> cases hr : isNil (some a) <;> first | rfl | simp [hl, hr] at h

/-- The scalar positions `v, w` of a same-typed pair of non-nil values (what the two pointers / interfaces hold, or the values
    themselves): where the one `Elem` of `equal` arrives, and what `goEq`, `Ordinary`, `closureAlias` speak of. -/
theorem sameDyn_scalars (x a : Val) : sameDyn x a = true → isNil (some x) = false → isNil (some a) = false →
    ∃ v w, elemIfPtrOrIface (some x) = some v ∧ elemIfPtrOrIface (some a) = some w ∧ sameShape1 v w = true ∧
      goEq x a = goEq1 v w ∧ Ordinary x a = ordinary1 v w ∧ closureAlias x a = closureAlias1 v w := by
  fun_cases sameDyn x a
  case case1 | case2 =>   -- ptr, ptr and iface, iface: what they hold
    exact fun hs _ _ => ⟨_, _, rfl, rfl, (Bool.and_eq_true _ _ ▸ hs).2, rfl, rfl, rfl⟩
  case case3 hp hi =>
    fun_cases sameShape1 x a
    case case27 => nofun
    case case18 => exact (hp _ _ _ _ _ _ rfl rfl).elim   -- ptr, ptr: taken above
    case case22 => exact (hi _ _ _ _ rfl rfl).elim   -- iface, iface: taken above
    -- bool, int, flt, str, strct, arr, slice/slice, map/map, func/func: the values themselves
    case case1 | case2 | case3 | case4 | case5 | case6 | case10 | case14 | case26 =>
      exact fun hs _ _ => ⟨_, _, rfl, rfl, hs, rfl, rfl, rfl⟩
    all_goals first | exact nofun | exact fun _ => nofun   -- one of the two is nil

theorem equal_spec (x a : Val) (hs : sameDyn x a = true) (ho : Ordinary x a) (hc : closureAlias x a = false) :
    equal (some x) (some a) = .ok (goEq x a) := by
  cases hn : isNil (some x) || isNil (some a)
  · rw [Bool.or_eq_false_iff] at hn
    obtain ⟨v, w, ex, ea, hvw, hg, hO, hC⟩ := sameDyn_scalars x a hs hn.1 hn.2
    rw [equal_nonnil hn.1 hn.2, ex, ea, hg]
    exact cascade_spec v w hvw (hO ▸ ho) (hC ▸ hc)
  · rw [equal_nil hn, goEq_nil hn]

theorem equal_symm (x a : Val) (hs : sameDyn x a = true) : equal (some x) (some a) = equal (some a) (some x) := by
  cases hn : isNil (some x) || isNil (some a)
  · rw [Bool.or_eq_false_iff] at hn
    obtain ⟨v, w, ex, ea, hvw, -⟩ := sameDyn_scalars x a hs hn.1 hn.2
    rw [equal_nonnil hn.1 hn.2, equal_nonnil hn.2 hn.1, ex, ea]
    exact cascade_symm v w hvw
  · rw [equal_nil hn, equal_nil (Bool.or_comm _ _ ▸ hn), Bool.and_comm]

theorem ite_ok {c : Prop} [Decidable c] {x y : Res Bool} (hx : ∃ b, x = .ok b) (hy : ∃ b, y = .ok b) :
    ∃ b, (if c then x else y) = .ok b := by
  split <;> assumption

theorem cascade_total (l r : Val) : ∃ b, cascade (some l) (some r) = .ok b :=
  ite_ok ⟨_, rfl⟩ (ite_ok ⟨_, rfl⟩ (ite_ok ⟨_, rfl⟩ (ite_ok ⟨_, rfl⟩ ⟨_, rfl⟩)))

theorem elem_some (l : Val) (h : isNil (some l) = false) : ∃ l', elemIfPtrOrIface (some l) = some l' := by
  cases l <;> first | exact ⟨_, rfl⟩ | nomatch h

theorem equal_total (l r : Val) : ∃ b, equal (some l) (some r) = .ok b := by
  cases hn : isNil (some l) || isNil (some r)
  · rw [Bool.or_eq_false_iff] at hn
    obtain ⟨l', el⟩ := elem_some l hn.1
    obtain ⟨r', er⟩ := elem_some r hn.2
    rw [equal_nonnil hn.1 hn.2, el, er]
    exact cascade_total l' r'
  · exact ⟨_, equal_nil hn⟩

theorem ite_okSome {c : Prop} [Decidable c] {x y : Res (Option Val)} {v : Option Val}
    (hx : x = .ok v → v.isSome = true) (hy : y = .ok v → v.isSome = true) :
    (if c then x else y) = .ok v → v.isSome = true := by
  split <;> assumption

theorem toValue_some {x : Arg} {T : Ty} {v : Option Val} : toValue x T = .ok v → v.isSome = true := by
  cases x with
  | none =>
    unfold toValue nilableZero
    cases T.kind <;> intro h <;> cases h <;> rfl
  | some p =>
    have ok {w : Val} : Res.ok (some w) = .ok v → v.isSome = true := fun h => by cases h; rfl
    exact ite_okSome (ite_okSome nofun nofun) (ite_okSome (ite_okSome ok nofun) (ite_okSome nofun ok))

mutual
/-- `cascade` panics only on the invalid Value (`Interface()` on the `argV` of an `Equals` that was never bound), so a valid
    `argV` in every `Equals` is all that `Eval` on valid arguments needs. -/
def rwf : RExpr → Bool
  | .any => true
  | .equals v => v.isSome
  | .inE rows => rowsWf rows
def rowsWf : RRows → Bool
  | .nil => true
  | .cons r rs => rowWf r && rowsWf rs
def rowWf : RRow → Bool
  | .nil => true
  | .cons e r => rwf e && rowWf r
end

theorem bind_ok {α β} {x : Res α} {f : α → Res β} {b : β} (h : x.bind f = .ok b) : ∃ a, x = .ok a ∧ f a = .ok b := by
  cases x <;> first | exact ⟨_, rfl, h⟩ | nomatch h

/-- The shape of every loop of `Resolve`: one element, then the rest, then `cons`. -/
theorem bind_cons_ok {α β γ} {x : Res α} {y : Res β} {f : α → β → γ} {c : γ}
    (h : x.bind (fun a => y.bind (fun b => .ok (f a b))) = .ok c) : ∃ a b, x = .ok a ∧ y = .ok b ∧ f a b = c := by
  obtain ⟨a, hx, h⟩ := bind_ok h
  obtain ⟨b, hy, h⟩ := bind_ok h
  exact ⟨a, b, hx, hy, Res.ok.inj h⟩

theorem ite_eq_ok {α} {c : Prop} [Decidable c] {x y : Res α} {a : α} (h : (if c then x else y) = .ok a) (hx : x ≠ .ok a) :
    y = .ok a := by
  split at h
  · exact (hx h).elim
  · exact h

mutual
theorem resolve_wf : ∀ (e : Expr) (types : List Ty) (r : RExpr), resolve e types = .ok r → rwf r = true
  | .any, _, _, h => by cases h; rfl
  | .equals x, [t], r, h => by
    obtain ⟨v, hv, hr⟩ := bind_ok h
    cases hr
    exact toValue_some hv
  | .equals x, [], r, h => nomatch h
  | .equals x, _ :: _ :: _, r, h => nomatch h
  | .inE items, types, r, h => by
    obtain ⟨rows, hrows, hr⟩ := bind_ok h
    cases hr
    exact resolveItems_wf items types rows hrows
theorem resolveItems_wf : ∀ (items : Items) (types : List Ty) (rows : RRows), resolveItems items types = .ok rows → rowsWf rows = true
  | .nil, _, _, h => by cases h; rfl
  | .one c rest, types, rows, h => by
    obtain ⟨row, rs, hrow, hrs, rfl⟩ := bind_cons_ok (ite_eq_ok h nofun)
    have hw : rowWf row = true := by
      replace hrow := ite_eq_ok hrow nofun
      split at hrow
      · cases hrow
      · obtain ⟨e, he, hr⟩ := bind_ok hrow
        cases hr
        exact Bool.and_eq_true _ _ ▸ ⟨resolveComp_wf c _ e he, rfl⟩
    exact Bool.and_eq_true _ _ ▸ ⟨hw, resolveItems_wf rest types rs hrs⟩
  | .tuple cs rest, types, rows, h => by
    obtain ⟨row, rs, hrow, hrs, rfl⟩ := bind_cons_ok h
    exact Bool.and_eq_true _ _ ▸ ⟨toExprFrom_wf cs types 0 row (ite_eq_ok hrow nofun), resolveItems_wf rest types rs hrs⟩
theorem toExprFrom_wf : ∀ (cs : Comps) (types : List Ty) (i : Nat) (row : RRow), toExprFrom cs types i = .ok row → rowWf row = true
  | .nil, _, _, _, h => by cases h; rfl
  | .cons c rest, types, i, row, h => by
    unfold toExprFrom at h
    split at h
    · cases h
    · obtain ⟨e, r, he, hr, rfl⟩ := bind_cons_ok h
      exact Bool.and_eq_true _ _ ▸ ⟨resolveComp_wf c _ e he, toExprFrom_wf rest types (i + 1) r hr⟩
theorem resolveComp_wf : ∀ (c : Comp) (t : Ty) (e : RExpr), resolveComp c t = .ok e → rwf e = true
  | .val x, t, e, h => by
    obtain ⟨v, hv, hr⟩ := bind_ok h
    cases hr
    exact toValue_some hv
  | .sub e', t, e, h => resolve_wf e' [t] e h
end

def allSome (input : List (Option Val)) : Prop := ∀ a ∈ input, a.isSome = true

mutual
theorem eval1_total : ∀ (e : RExpr), rwf e = true → ∀ a : Val, ∃ b, eval e [some a] = .ok b
  | .any, _, _ => ⟨true, rfl⟩
  | .equals none, h, _ => nomatch h
  | .equals (some x), _, a => equal_total x a
  | .inE rows, h, a => evalRows_total rows h [some a] (fun _ hv => List.mem_singleton.mp hv ▸ rfl)
theorem evalRows_total : ∀ (rows : RRows), rowsWf rows = true → ∀ input, allSome input → ∃ b, evalRows rows input = .ok b
  | .nil, _, _, _ => ⟨false, rfl⟩
  | .cons row rest, h, input, hi => by
    have h := (Bool.and_eq_true _ _ ▸ h : rowWf row = true ∧ rowsWf rest = true)
    have ih := evalRows_total rest h.2 input hi
    refine ite_ok ih ?_
    obtain ⟨b, hb⟩ := evalRow_total row h.1 input hi
    rw [hb]
    cases b
    · exact ih
    · exact ⟨true, rfl⟩
theorem evalRow_total : ∀ (row : RRow), rowWf row = true → ∀ input, allSome input → ∃ b, evalRow row input = .ok b
  | .nil, _, _, _ => ⟨true, rfl⟩
  | .cons e r, _, [], _ => ⟨true, rfl⟩
  | .cons e r, h, none :: as, hi => nomatch hi none (List.mem_cons_self ..)
  | .cons e r, h, some a :: as, hi => by
    have h := (Bool.and_eq_true _ _ ▸ h : rwf e = true ∧ rowWf r = true)
    obtain ⟨b, hb⟩ := eval1_total e h.1 a
    show ∃ b, (eval e [some a]).bind _ = .ok b
    rw [hb]
    cases b
    · exact ⟨false, rfl⟩
    · exact evalRow_total r h.2 as (fun v hv => hi v (List.mem_cons_of_mem _ hv))
end

/-- First accepting alternative wins; an error or panic of an alternative that is reached is the answer. -/
def orRes : List (Res Bool) → Res Bool
  | [] => .ok false
  | r :: rs => r.bind (fun b => if b then .ok true else orRes rs)

def Items.comps : Items → Option (List Comp)
  | .nil => some []
  | .one c rest => (Items.comps rest).map (c :: ·)
  | .tuple _ _ => none

theorem evalRow_single (e : RExpr) (a : Option Val) : evalRow (.cons e .nil) [a] = eval e [a] := by
  show (eval e [a]).bind _ = _
  cases eval e [a] with
  | ok b => cases b <;> rfl
  | _ => rfl

theorem in_union_rows : ∀ (items : Items) (T : Ty) (cs : List Comp) (rows : RRows) (a : Option Val),
    Items.comps items = some cs → resolveItems items [T] = .ok rows →
    evalRows rows [a] = orRes (cs.map (fun c => (resolveComp c T).bind (fun e => eval e [a])))
  | .nil, _, _, _, _, hc, hr => by cases hc; cases hr; rfl
  | .tuple _ _, _, _, _, _, hc, _ => nomatch hc
  | .one c rest, T, cs, rows, a, hc, hr => by
    obtain ⟨cs', hcs', rfl⟩ := Option.map_eq_some_iff.mp hc
    obtain ⟨row, rs, hrow, hrs, rfl⟩ := bind_cons_ok (ite_eq_ok hr nofun)
    obtain ⟨e, he, hr'⟩ := bind_ok (show (resolveComp c T).bind (fun e => Res.ok (RRow.cons e .nil)) = .ok row from hrow)
    cases hr'
    show (evalRow (.cons e .nil) [a]).bind _ = ((resolveComp c T).bind _).bind _
    rw [evalRow_single, he, in_union_rows rest T cs' rs a hcs' hrs]
    rfl

def _root_.C18M.RRows.toList : RRows → List RRow
  | .nil => []
  | .cons r rs => r :: rs.toList

theorem evalRows_union : ∀ (rows : RRows) (input : List (Option Val)),
    evalRows rows input =
      orRes (((RRows.toList rows).filter (fun r => r.len == input.length)).map (fun r => evalRow r input))
  | .nil, _ => rfl
  | .cons row rest, input => by
    have ih := evalRows_union rest input
    unfold evalRows RRows.toList
    rw [List.filter_cons]
    by_cases h : input.length = row.len
    · rw [if_neg (by simpa using h), if_pos (by simpa using h.symm), ih]; rfl
    · rw [if_pos (by simpa using h), if_neg (by simpa using Ne.symm h), ih]

def state (o : Obj) : List Call → Obj
  | [] => o
  | c :: cs => state (step o c).1 cs

theorem step_eval_state (o : Obj) (input : List (Option Val)) : (step o (.eval input)).1 = o := rfl

theorem run_append (o : Obj) (pre post : List Call) : run o (pre ++ post) = run o pre ++ run (state o pre) post := by
  induction pre generalizing o with
  | nil => rfl
  | cons c cs ih => simp [run, state, ih]

-- `res` is `none` or `some .any`; with `src = .any` `step` reads both as `.any` (`o.res.getD (unresolved o.src)`).
theorem state_any (o : Obj) (cs : List Call) :
    o.src = .any → o.res.getD .any = .any → (state o cs).src = .any ∧ (state o cs).res.getD .any = .any := by
  fun_induction state o cs
  case case1 => exact fun hs hr => ⟨hs, hr⟩
  case case2 o c _ ih =>
    obtain ⟨_, _⟩ := o
    rintro rfl hr
    cases c
    · exact ih rfl rfl
    · exact ih rfl hr

theorem toExprV_wf {cs : Comps} {fixed : List Ty} {elemT : Ty} {row : RRow} (h : toExprV cs fixed elemT = .ok row) :
    rowWf row = true :=
  toExprFrom_wf cs _ 0 row (ite_eq_ok h nofun)

theorem resolveTuplesVFrom_wf : ∀ (items : Items) (fixed : List Ty) (elemT : Ty) (i : Nat) (rows : RRows),
    resolveTuplesVFrom items fixed elemT i = .ok rows → rowsWf rows = true
  | .nil, _, _, _, _, h => by cases h; rfl
  | .one c rest, fixed, elemT, i, rows, h => by
    obtain ⟨row, rs, hrow, hrs, rfl⟩ := bind_cons_ok (ite_eq_ok h nofun)
    have hw : rowWf row = true := by
      split at hrow
      · split at hrow
        · exact toExprV_wf hrow
        · cases hrow
      · exact toExprV_wf hrow
    exact Bool.and_eq_true _ _ ▸ ⟨hw, resolveTuplesVFrom_wf rest fixed elemT (i + 1) rs hrs⟩
  | .tuple cs rest, fixed, elemT, i, rows, h => by
    obtain ⟨row, rs, hrow, hrs, rfl⟩ := bind_cons_ok h
    exact Bool.and_eq_true _ _ ▸ ⟨toExprV_wf hrow, resolveTuplesVFrom_wf rest fixed elemT (i + 1) rs hrs⟩

/-- Object `id` of the heap is an `AnyExpr` (built by `arg.Any()`, e.g. the exported `arg.AnyValues`): `src` is what `Resolve`
    looks at (on `.any` it stores nothing), `st` what `Eval` reads. -/
def IsAny (h : Heap) (id : Nat) : Prop := ∃ o, h[id]? = some o ∧ o.st = .any ∧ o.src = .any

theorem IsAny.setSt {h : Heap} {id j : Nat} (hp : IsAny h id) (hj : j ≠ id) (st : OState) : IsAny (setSt h j st) id := by
  unfold C18M.setSt
  split
  · rwa [IsAny, List.getElem?_set_ne hj]
  · exact hp

theorem IsAny.ne {h : Heap} {id j : Nat} {o : SObj} (hp : IsAny h id) (ho : h[j]? = some o) (hs : o.src ≠ .any) : j ≠ id := by
  rintro rfl
  obtain ⟨_, ho', _, hsrc⟩ := hp
  exact hs (Option.some.inj (ho.symm.trans ho') ▸ hsrc)

section
variable {P : Heap → Prop} {rr : Heap → Nat → Ty → Heap × Res Unit}

theorem compsRow_pres (hrr : ∀ h id t, P h → P (rr h id t).1) (h : Heap) (cs : List SComp) (types : List Ty) (i : Nat) : P h → P (compsRow rr h cs types i).1 := by
  fun_induction compsRow rr h cs types i
  case case3 ih => exact ih
  case case5 ih => exact fun hp => ih (hrr _ _ _ hp)
  case case6 => exact hrr _ _ _
  all_goals exact fun hp => hp

theorem itemsRows_pres (hrr : ∀ h id t, P h → P (rr h id t).1) (h : Heap) (items : List SItem) (types : List Ty) : P h → P (itemsRows rr h items types).1 := by
  fun_induction itemsRows rr h items types
  case case3 ih => exact fun hp => ih (compsRow_pres hrr _ _ _ _ hp)
  case case4 => exact compsRow_pres hrr _ _ _ _
  all_goals exact fun hp => hp
end

-- The heap is written only by `setSt` at an object whose `src` is `Equals` or `In`, which is not `id` (`IsAny.ne`).
theorem resolveObj_pres (id : Nat) (fuel : Nat) (h : Heap) (j : Nat) (types : List Ty) :
    IsAny h id → IsAny (resolveObj fuel h j types).1 id := by
  fun_induction resolveObj fuel h j types
  case case4 ho _ hs _ _ _ | case5 ho _ hs _ _ _ => exact fun hp => hp.setSt (hp.ne ho (hs ▸ nofun)) _
  case case8 ho _ hs _ _ ih => exact fun hp => (itemsRows_pres ih _ _ _ hp).setSt (hp.ne ho (hs ▸ nofun)) _
  case case9 ih => exact itemsRows_pres ih _ _ _
  all_goals exact fun hp => hp

theorem stateS_pres (id : Nat) (fuel : Nat) (script : List SStep) (h : Heap) : IsAny h id → IsAny (stateS fuel h script) id := by
  fun_induction stateS fuel h script
  case case1 => exact fun hp => hp
  case case2 s _ ih =>
    cases s
    · exact fun hp => ih (resolveObj_pres id fuel _ _ _ hp)
    · exact ih

theorem runS_append (fuel : Nat) (h : Heap) (pre post : List SStep) :
    runS fuel h (pre ++ post) = runS fuel h pre ++ runS fuel (stateS fuel h pre) post := by
  induction pre generalizing h with
  | nil => rfl
  | cons c cs ih => simp [runS, stateS, ih]

end C18L
