import GoomVerif.Model.X86Dec
/-!
The per-pc certificate of the x86 table program, `X86Dec.okAt`, holds at every pc: `okAt_all`.

The fact is finite (a fixed 13 401-word table and its certificate words), so the kernel evaluates the checker.  `okAt` itself reads through
`tbl?` / `certWord`, which index 256-element array literals; the kernel walks such a literal from its head at every read.
So the same checker is stated over arbitrary read functions (`okAtW`), `okAt` is an
instance of it, and the instance that is evaluated reads from the two tables, each packed into two numerals (chunk sizes, chunk
contents), where a read is a division and a remainder, and looks `plainEff` up through a search tree whose leaves the kernel evaluates once.
-/
namespace X86Cert
open X86Dec Gen.X86

/-! ### Lists of `w`-bit words as one numeral -/

def pack (w : Nat) : List Nat → Nat
  | [] => 0
  | x :: xs => x + 2 ^ w * pack w xs

def get (w P j : Nat) : Nat := P / 2 ^ (w * j) % 2 ^ w

theorem pack_lt {w : Nat} : ∀ {l : List Nat}, (∀ x ∈ l, x < 2 ^ w) → pack w l < 2 ^ (w * l.length)
  | [], _ => Nat.two_pow_pos _
  | x :: xs, h => by
    have hx := h x (List.mem_cons_self ..)
    have ih := pack_lt (l := xs) fun y hy => h y (List.mem_cons_of_mem _ hy)
    have : 2 ^ w * (pack w xs + 1) ≤ 2 ^ w * 2 ^ (w * xs.length) := Nat.mul_le_mul_left _ ih
    rw [pack, List.length_cons, Nat.mul_succ, Nat.pow_add, Nat.mul_comm (2 ^ (w * xs.length))]
    rw [Nat.mul_succ] at this
    omega

theorem get_pack {w : Nat} : ∀ (l : List Nat), (∀ x ∈ l, x < 2 ^ w) → ∀ j, get w (pack w l) j = l.getD j 0
  | [], _, j => by simp [get, pack]
  | x :: xs, h, 0 => by
    simp only [get, pack, Nat.mul_zero, Nat.pow_zero, Nat.div_one, Nat.add_mul_mod_self_left, List.getD_cons_zero]
    exact Nat.mod_eq_of_lt (h x (List.mem_cons_self ..))
  | x :: xs, h, j + 1 => by
    have ih := get_pack xs (fun y hy => h y (List.mem_cons_of_mem _ hy)) j
    have hx := h x (List.mem_cons_self ..)
    rw [List.getD_cons_succ, ← ih, get, get, pack, Nat.mul_succ, Nat.add_comm (w * j), Nat.pow_add, ← Nat.div_div_eq_div_mul,
      Nat.add_mul_div_left _ _ (Nat.two_pow_pos _), Nat.div_eq_of_lt hx, Nat.zero_add]

/-! ### A function on `[0, 256)` behind a binary search

The kernel keeps the normal form of every closed term it has evaluated.  `look f 8 0 x` reaches the leaf `f lo` by eight comparisons, and that
leaf is the same term for every `x` that ends there, so `f` is evaluated once per leaf however often it is asked. -/

def look {α : Type} (f : Nat → α) : Nat → Nat → Nat → α
  | 0, lo, _ => f lo
  | d + 1, lo, x => if x < lo + 2 ^ d then look f d lo x else look f d (lo + 2 ^ d) x

theorem look_eq {α : Type} (f : Nat → α) : ∀ d lo x, lo ≤ x → x < lo + 2 ^ d → look f d lo x = f x
  | 0, lo, x, h₁, h₂ => by rw [look, show lo = x by omega]
  | d + 1, lo, x, h₁, h₂ => by
    rw [Nat.pow_succ] at h₂
    rw [look]
    split
    · exact look_eq f d lo x h₁ (by assumption)
    · exact look_eq f d _ x (by omega) (by omega)

def memo {α : Type} (f : Nat → α) (x : Nat) : α := if x < 256 then look f 8 0 x else f x

theorem memo_eq {α : Type} (f : Nat → α) : memo f = f := by
  funext x
  unfold memo
  split
  · exact look_eq f 8 0 x (Nat.zero_le _) (by omega)
  · rfl

/-! ### A chunked table (`Array (Array Nat)`, chunks of at most 256 words) as two numerals: chunk sizes, and chunks as `256·w`-bit words -/

def sizes (cs : Array (Array Nat)) : Nat := pack 16 (cs.toList.map Array.size)
def words (w : Nat) (cs : Array (Array Nat)) : Nat := pack (256 * w) (cs.toList.map fun c => pack w c.toList)
def fits (w : Nat) (cs : Array (Array Nat)) : Bool := cs.toList.all fun c => decide (c.size ≤ 256) && c.toList.all fun x => decide (x < 2 ^ w)

def read (w L P i : Nat) : Option Nat :=
  if i % 256 < get 16 L (i / 256) then some (get w (get (256 * w) P (i / 256)) (i % 256)) else none

theorem read_eq (w : Nat) (cs : Array (Array Nat)) (h : fits w cs = true) (i : Nat) :
    (cs[i / 256]?).bind (fun c => c[i % 256]?) = read w (sizes cs) (words w cs) i := by
  simp only [fits, List.all_eq_true, Bool.and_eq_true, decide_eq_true_eq] at h
  have hs : ∀ x ∈ cs.toList.map Array.size, x < 2 ^ 16 := by
    intro x hx
    obtain ⟨c, hc, rfl⟩ := List.mem_map.mp hx
    exact Nat.lt_of_le_of_lt (h c hc).1 (by decide)
  have hw : ∀ x ∈ cs.toList.map (fun c => pack w c.toList), x < 2 ^ (256 * w) := by
    intro x hx
    obtain ⟨c, hc, rfl⟩ := List.mem_map.mp hx
    refine Nat.lt_of_lt_of_le (pack_lt (h c hc).2) (Nat.pow_le_pow_right (by decide) ?_)
    rw [Nat.mul_comm]; exact Nat.mul_le_mul_right _ (h c hc).1
  rw [read, sizes, words, get_pack _ hs, get_pack _ hw, ← Array.getElem?_toList]
  cases hq : cs.toList[i / 256]? with
  | none => simp [List.getD, hq]
  | some c =>
    have hc : c ∈ cs.toList := List.mem_of_getElem? hq
    simp only [List.getD, List.getElem?_map, hq, Option.map_some, Option.getD_some, Option.bind_some, get_pack _ (h c hc).2,
      ← Array.getElem?_toList]
    by_cases hr : i % 256 < c.size
    · simp [hr]
    · simp [hr]

/-! ### The checker of `Model/X86Dec.lean`, reading through `tb` (for `tbl?`), `cw` (for `certWord`) and `ef` (for `plainEff`) -/

section
variable (tb : Nat → Option Nat) (cw : Nat → Nat) (ef : Nat → Option Eff)

def readPairsW : Nat → Nat → Option (List (Nat × Nat))
  | 0, _ => some []
  | k + 1, p => do
    let a ← tb p
    let b ← tb (p + 1)
    let r ← readPairsW k (p + 2)
    pure ((a, b) :: r)

def readListW : Nat → Nat → Option (List Nat)
  | 0, _ => some []
  | k + 1, p => do
    let a ← tb p
    let r ← readListW k (p + 1)
    pure (a :: r)

def fetchW (pc : Nat) : Option Instr := do
  let x ← tb pc
  if x = xFail then pure .fail
  else if x = xMatch then pure .match_
  else if x = xJump then pure (.jump (← tb (pc + 1)))
  else if x = xCondByte then
    let n ← tb (pc + 1)
    let ents ← readPairsW tb n (pc + 2)
    let after := pc + 2 + 2 * n
    let y ← tb after
    let fall ← if y = xJump then tb (after + 1) else pure after
    let z ← tb fall
    pure (.condByte ents fall (z = xFail))
  else if x = xCondIs64 then pure (.condIs64 (← tb (pc + 2)))
  else if x = xCondIsMem then pure (.condIsMem (← tb (pc + 1)) (← tb (pc + 2)))
  else if x = xCondDataSize then pure (.condDataSize (← tb (pc + 1)) (← tb (pc + 2)) (← tb (pc + 3)))
  else if x = xCondAddrSize then pure (.condAddrSize (← tb (pc + 1)) (← tb (pc + 2)) (← tb (pc + 3)))
  else if x = xCondPrefix then
    let n ← tb (pc + 1)
    pure (.condPrefix (← readPairsW tb n (pc + 2)))
  else if x = xCondSlashR then pure (.condSlashR (← readListW tb 8 (pc + 1)))
  else if x = xSetOp then pure (.setOp (← tb (pc + 1)) (pc + 2))
  else if x ≤ xArgRmf64 then pure (.plain x (pc + 1))
  else pure (.bad x)

def certW? (pc : Nat) : Option Cert :=
  let w := cw pc
  if w &&& 1 = 0 then none
  else some { rank := (w >>> 1) &&& 15, nargMax := (w >>> 5) &&& 7, immcw := (w >>> 8) &&& 15, cons := (w >>> 12) &&& 1 = 1,
              z := (w >>> 13) &&& 15 }

def edgeOKW (c : Cert) (dn rd : Nat) (cs : Bool) (pz : Bool) (np : Nat) (pc' : Nat) : Bool :=
  match certW? cw pc' with
  | none => false
  | some c' =>
    decide (c'.rank < c.rank) && decide (c.nargMax + dn ≤ c'.nargMax) && decide (c'.nargMax ≤ len_args)
      && decide (c'.immcw ≤ (if rd = 0 then c.immcw else rd)) && (!c'.cons || c.cons || cs)
      && decide (edgeZ c.z pz np ≤ c'.z)

def plainOKW (c : Cert) (x next : Nat) : Bool :=
  match ef x with
  | none => false
  | some e => (!e.needCons || c.cons) && decide (e.needImmcw ≤ c.immcw) && e.static && decide (c.z ≤ e.needZ)
      && edgeOKW cw c e.dn e.rd e.cs false e.np next

def instrOKW (c : Cert) : Instr → Bool
  | .fail => true
  | .match_ => c.cons
  | .jump t => edgeOKW cw c 0 0 false false 0 t
  | .condByte ents fall _ => ents.all (fun e => edgeOKW cw c 0 0 true (e.1 % 256 != 0) 1 e.2) && edgeOKW cw c 0 0 false false 0 fall
  | .condIs64 t => edgeOKW cw c 0 0 false false 0 t
  | .condIsMem a b => c.cons && edgeOKW cw c 0 0 false false 0 a && edgeOKW cw c 0 0 false false 0 b
  | .condDataSize a b d => edgeOKW cw c 0 0 false false 0 a && edgeOKW cw c 0 0 false false 0 b && edgeOKW cw c 0 0 false false 0 d
  | .condAddrSize a b d => edgeOKW cw c 0 0 false false 0 a && edgeOKW cw c 0 0 false false 0 b && edgeOKW cw c 0 0 false false 0 d
  | .condPrefix ents => ents.all (fun e => edgeOKW cw c 0 0 false false 0 e.2)
  | .condSlashR ts => decide (c.z ≤ 4) && decide (ts.length = 8) && ts.all (fun t => edgeOKW cw c 0 0 true false 2 t)
  | .setOp _ next => edgeOKW cw c 0 0 false false 0 next
  | .plain x next => plainOKW cw ef c x next
  | .bad _ => false

def okAtW (pc : Nat) : Bool :=
  match certW? cw pc with
  | none => true
  | some c => match fetchW tb pc with
    | none => false
    | some i => instrOKW cw ef c i

end

theorem readPairsW_eq : ∀ k p, readPairsW tbl? k p = readPairs k p
  | 0, _ => rfl
  | k + 1, p => by simp only [readPairsW, readPairs, readPairsW_eq k]

theorem readListW_eq : ∀ k p, readListW tbl? k p = readList k p
  | 0, _ => rfl
  | k + 1, p => by simp only [readListW, readList, readListW_eq k]

theorem okAtW_eq (pc : Nat) : okAtW tbl? certWord plainEff pc = okAt pc := by
  have hf : fetchW tbl? pc = fetch pc := by simp only [fetchW, fetch, readPairsW_eq, readListW_eq]
  have he : edgeOKW certWord = edgeOK := rfl
  have hp : plainOKW certWord plainEff = plainOK := rfl
  have hi : instrOKW certWord plainEff = instrOK := by
    funext c i
    cases i <;> simp only [instrOKW, instrOK, hp, he]
  simp only [okAtW, okAt, hf, hi]; rfl

def tblP : Nat := words 16 tChunks
def tblL : Nat := sizes tChunks
def cwP : Nat := words 32 cChunks
def cwL : Nat := sizes cChunks

theorem tbl?_eq : tbl? = read 16 tblL tblP := funext (read_eq 16 tChunks (by decide +kernel))
theorem certWord_eq : certWord = fun i => (read 32 cwL cwP i).getD 0 :=
  funext fun i => congrArg (·.getD 0) (read_eq 32 cChunks (by decide +kernel) i)

theorem okAtW_all : (List.range (256 * nchunks)).all
    (okAtW (read 16 tblL tblP) (fun i => (read 32 cwL cwP i).getD 0) (memo plainEff)) = true := by decide +kernel

/-- positions beyond the last chunk carry no certificate -/
theorem certWord_out (pc : Nat) (h : nchunks ≤ pc / 256) : certWord pc = 0 := by
  have : cChunks[pc / 256]? = none := Array.getElem?_eq_none (by rw [show cChunks.size = nchunks from by decide]; exact h)
  rw [certWord, this]; rfl

theorem okAt_all (pc : Nat) : okAt pc = true := by
  by_cases h : pc < 256 * nchunks
  · have := List.all_eq_true.mp okAtW_all pc (List.mem_range.mpr h)
    rwa [← tbl?_eq, ← certWord_eq, memo_eq, okAtW_eq] at this
  · have hw := certWord_out pc (by omega)
    simp [okAt, cert?, hw]

end X86Cert
