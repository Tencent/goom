import GoomVerif.Props.C06
/-! Counter-examples for the recorded C06 defects (never obligations).

* C06-F1 (repaired by `fixes/F22-cache-keys.diff`): the pinned tree keyed `Builder.Struct` by `reflect.Type.String()`
  (package *name* + type name) and `ExportStruct`/`ExportFunc` by `pkgName+"_"+name`; neither key is injective, so the
  cache handed out another type's mocker.
* C06-K1 (known): by-name mocking of a method of an instantiated generic type names the wrapper, not the shape body. -/
namespace C06F
open Method

/-- builder.go:86 of the pinned tree: `reflect.ValueOf(instance).Type().String()` = `[*]<package name>.<type name>` -/
def oldStructKey (base : Str) (t : Ty) : Str := (if t.ptr then ['*'] else []) ++ base ++ '.' :: t.name

def tx : Ty := ⟨"m/x/util".toList, "T".toList, false⟩
def ty : Ty := ⟨"m/y/util".toList, "T".toList, false⟩

/-- two different types, one key … -/
theorem oldStructKey_collides : tx ≠ ty ∧ oldStructKey "util".toList tx = oldStructKey "util".toList ty := by decide +kernel

/-- … so the second `Struct(..)` call gets the mocker that was created for the first type -/
theorem oldStructKey_wrong_mocker :
    (getOrCreate [(oldStructKey "util".toList tx, tx)] (oldStructKey "util".toList ty) ty).2 = tx := by decide +kernel

/-- builder.go:123 of the pinned tree: `b.pkgName + "_" + name` -/
def oldExportKey (pkg name : Str) : Str := pkg ++ '_' :: name

theorem oldExportKey_collides :
    ("m/a_b".toList, "T".toList) ≠ ("m/a".toList, "b_T".toList) ∧
    oldExportKey "m/a_b".toList "T".toList = oldExportKey "m/a".toList "b_T".toList := by decide +kernel

/-- C06-K1: the full by-name statement fails at a generic instantiation although the wrapper symbol is in the table -/
theorem byName_generic_counterexample : ¬ C06.ByNameReplacesFull := by
  intro h
  have := h C06.exSyms C06.eGi (by decide +kernel) (by decide +kernel)
  revert this
  decide +kernel

/-- C06-K2: `Struct(&T{}).Method("Get")` for the VALUE method `T.Get` is answered `ok` (the `(*T).Get` wrapper is in the
    table and gets patched) and a call of `T.Get` still runs its original body -/
theorem value_method_via_pointer_not_replaced :
    let syms := C06.exSyms ++ ["x/pa.(*T).Get".toList]
    let r := run syms C06.exEntries BState.init 0 [.structMethod ⟨C06.pa, "T".toList, true⟩ "Get".toList]
    r.2 = [Res.ok] ∧ behavOf syms r.1.patched C06.eGet = none := by decide +kernel

/-- what the pinned `GetInnerFunc` did (repaired by `fixes/F27-c06-innerfunc-runtime-helper.diff`) — the first CALL target, even when it is
    `runtime.duffcopy` in front of the shape body — is what `InnerFn.inner` still says for code that cannot tell the
    helper from the body; the repaired loop skips targets inside package runtime (not expressible in `InnerFn.Ins`). -/
theorem first_call_wins : InnerFn.inner [.fill 4, .call (-100000), .fill 3, .call (-200)] = some (-99991) := by decide +kernel

end C06F
