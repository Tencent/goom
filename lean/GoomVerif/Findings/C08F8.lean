import GoomVerif.Props.C08
/-!
# F8 — the published var.go does not have property C08 (counter-examples on `Var.step true`)

`Var.step true` transcribes the code before `fixes/F8.diff`: `doSet` saves the origin on every call, `Cancel`
assigns `reflect.ValueOf(m.originValue)` unconditionally.  Not an obligation of the check: once the repository
contains the fix these theorems merely document what was wrong.
-/
namespace C08F8
open Var C08

/-- 7 → Set 1 → Set 2 → Reset leaves 1: the second `doSet` overwrote the saved origin. -/
theorem origin_overwritten :
    ((run true (init exMem) [.look 0 false 0, .set 0 (some ⟨exInt, 1⟩), .set 0 (some ⟨exInt, 2⟩),
        .reset 0 [(false, 0)]]).mem 0).cur = some ⟨exInt, 1⟩ := by
  decide +kernel

/-- `Cancel` with nothing set panics (`reflect.ValueOf(nil)` is the zero Value). -/
theorem cancel_unset_panics :
    (step true (run true (init exMem) [.look 0 false 0]) (.cancel 0)).2 = .panic .setZeroValue := by
  decide +kernel

/-- `Cancel` when the saved value is a nil interface panics, and the mock stays in place. -/
theorem cancel_nil_interface_panics :
    let s := run true (init exMem) [.look 0 false 1, .set 0 (some ⟨exPErr, 3⟩)]
    (step true s (.cancel 0)).2 = .panic .setZeroValue ∧ ((step true s (.cancel 0)).1.mem 1).cur = some ⟨exPErr, 3⟩ := by
  decide +kernel

/-- a stale `Cancel` (second Reset) writes the old origin over a value the program assigned meanwhile -/
theorem second_reset_clobbers :
    ((run true (init exMem) [.look 0 false 0, .set 0 (some ⟨exInt, 1⟩), .reset 0 [(false, 0)],
        .write 0 (some ⟨exInt, 9⟩), .reset 0 [(false, 0)]]).mem 0).cur = some ⟨exInt, 7⟩ := by
  decide +kernel

end C08F8

/-! ## K-C08-ue-iface — an unexported variable of interface type cannot be mocked by name

The statement one would like: -/
namespace C08F8
open Var C08

/-- every value assignable to the variable's type can be set through an unexported-variable mocker -/
def UeSetForEveryType : Prop :=
  ∀ (s : State) (i : Nat) (x : Val), (s.mks i).ue = true → assignable x.ty (s.mem (s.mks i).addr).ty = true →
    (step false s (.set i (some x))).2 = .ok

/-- It fails (one witness below; the reason applies to every interface-typed variable): the overlay `reflect.NewAt(TypeOf(v))` has the dynamic type, the
    model (like goom's documentation) calls the result undefined, the real code corrupts the interface word
    (the check shows the reader crashing).  Witness: the nil `error` variable and a `*T` error.  What *is* proved is
    `C08.readers_see_last_set` + the restore theorems under `C08L.UeTyped` (value type = variable type). -/
theorem ueSetForEveryType_false : ¬ UeSetForEveryType := fun h =>
  absurd (h (run false (init exMem) [.look 0 true 1]) 0 ⟨exPErr, 3⟩ (by decide +kernel) (by decide +kernel))
    (by decide +kernel)

end C08F8

/-! ## K-C08-mixed-addressing / K-C08-set-nil-interface (code with F8 and F27; not obligations) -/
namespace C08F8
open Var C08

/-- One variable addressed by pointer and by name in one builder: two cache keys, two mockers, two saved origins.
    7 → Set 1 through `Var(&v)` → Set 2 through `UnExportedVar("pkg.v")` → Cancel both (in that order) leaves 1.
    `C08L.Owner` (no other mocker holds a mock of the variable) is exactly what this history violates. -/
theorem mixed_addressing_restores_wrong_value :
    ((run false (init exMem) [.look 0 false 0, .look 0 true 0, .set 0 (some ⟨exInt, 1⟩), .set 1 (some ⟨exInt, 2⟩),
        .cancel 0, .cancel 1]).mem 0).cur = some ⟨exInt, 1⟩ := by
  decide +kernel

/-- `Set(nil)` on an interface-typed variable: `reflect.ValueOf(nil)` is the zero Value, `Set` panics, nothing changes. -/
theorem set_nil_interface_panics :
    (step false (run false (init exMem) [.look 0 false 1]) (.set 0 none)).2 = .panic .setZeroValue := by
  decide +kernel

end C08F8
