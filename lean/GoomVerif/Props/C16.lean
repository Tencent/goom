import GoomVerif.Lemmas.C16L
import GoomVerif.Lemmas.C16Vectors
import GoomVerif.Model.X86Scan
/-! # C16 — the x86-64 decoder is total and exact

Theorems about `X86Dec.decode`, the transcription of `x86asm.Decode(src, 64)` (`Model/X86Dec.lean`) running the decoder
table regenerated from the compiled package (`Gen/X86Table.lean`).  All are for **every** byte string `src`.
The clause "agrees with an independent reference decoder on every instruction the toolchain emits" is a comparison with
another program over an open-ended set: it is run exhaustively over the `.text` of several Go binaries by `checks/C16.py`
and reported as differential evidence, not stated here. -/
namespace C16
open X86Dec Gen.X86

/-- Clause "never panics", table half: at every position of the regenerated decoder table that can be reached from the entry
    point, the instruction fetches completely inside the table and every jump target / operand respects the rank, narg and
    code-offset certificate (so the table program is acyclic, `inst.Args[narg]` stays in range, rel8/16/32 follow their reads).
    Checked by the kernel at every position (`X86Cert.okAt_all`). -/
theorem table_wf : ∀ pc, okAt pc = true := X86Cert.okAt_all

/-- `table_wf` alone would also hold of an empty certificate (`okAt` is `true` where no claim is made).  This is the non-vacuous
    form: the entry point pc = 1 **does** carry a certificate (rank below the decode-loop fuel), and the certified positions are
    closed under the program's edges — every certified position fetches inside the table and satisfies `instrOK`, which demands a
    certificate of strictly smaller rank at each of its successors.  So the certified set contains every position the interpreter
    can reach, and the claims of `table_wf` are about all of them. -/
theorem table_cert_closed :
    (∃ c, cert? 1 = some c ∧ c.rank < fuel0 ∧ c.immcw = 0 ∧ c.cons = false) ∧
    (∀ pc c, cert? pc = some c → ∃ i, fetch pc = some i ∧ instrOK c i = true) ∧
    (∀ (c : Cert) (dn rd : Nat) (cs pz : Bool) (np pc' : Nat), edgeOK c dn rd cs pz np pc' = true →
      ∃ c', cert? pc' = some c' ∧ c'.rank < c.rank) := by
  refine ⟨?_, fun pc c hc => C16L.fetch_ok hc, ?_⟩
  · obtain ⟨c, hc, hr, _, him, hcs, _⟩ := C16L.entry_cert
    exact ⟨c, hc, hr, him, hcs⟩
  · intro c dn rd cs pz np pc' h
    obtain ⟨c', h1, h2, _⟩ := C16L.edgeOK_elim h
    exact ⟨c', h1, h2⟩

/-- the certificate is not empty: the entry is certified -/
example : (cert? 1).isSome = true := by
  obtain ⟨c, hc, _⟩ := table_cert_closed.1
  rw [hc]; rfl

/-- Clause "never panics": no Go index-out-of-range (`decoder[pc]`, `src[pos]`, `inst.Args[narg]`, `inst.Prefix[pos]`,
    `fixedArg[x]`, `baseReg[x]`, `memBytes[x]`) on any input, and the fuel of the model's decode loop (16 > longest path of the
    acyclic table program) is never exhausted, i.e. the loop terminates. -/
theorem decode_total (src : Bytes) : (decode src).err ≠ .panic ∧ (decode src).err ≠ .fuel :=
  ⟨(C16L.decode_good src).nopanic, (C16L.decode_good src).nofuel⟩

/-- Clause "never reports a length outside 1..15 or beyond the bytes supplied" — on success. -/
theorem len_bounds (src : Bytes) (h : (decode src).err = .ok) :
    1 ≤ (decode src).len ∧ (decode src).len ≤ 15 ∧ (decode src).len ≤ src.length := by
  have g := C16L.decode_good src
  have := g.len_pos h
  have := g.len_le
  omega

example : ∃ src : Bytes, (decode src).err = .ok := ⟨[0x90#8], by simp only [C16L.decode_vectors]⟩

/-- … and on every error return (`Inst{Len: pos}`): the reported length never exceeds the bytes supplied nor 15. -/
theorem err_len_le (src : Bytes) : (decode src).len ≤ src.length ∧ (decode src).len ≤ 15 := by
  have := (C16L.decode_good src).len_le
  omega

/-- What "success" means for the prefix-only pseudo instruction.  `Decode` returns `err == nil` with `Op == 0` (decode.go:171
    `instPrefix`) for a truncated, over-long or invalid-after-prefix input; that is **not** an instruction boundary.  It is always
    recognisable: `Len = 1`, no PC-relative field and numeric `Opcode = 0` — exactly the test the consumers apply
    (`func_amd64.go:44`, `:93 ins.Opcode == 0`, `fix_addr_amd64.go:63`).  Conversely a result with `Op ≠ 0` is a table match. -/
theorem prefix_only_shape (src : Bytes) (hok : (decode src).err = .ok) (h0 : (decode src).op = 0) :
    (decode src).len = 1 ∧ (decode src).pcrel = 0 ∧ (decode src).opcode = 0 :=
  (C16L.decode_good src).op0 hok h0

/-- satisfiable: a cut `MOV` (`48 8b`) and fifteen `66` prefixes are such pseudo instructions; `90` is not -/
example : (decode [0x48#8, 0x8b]).err = .ok ∧ (decode [0x48#8, 0x8b]).op = 0 ∧ (decode [0x90#8]).op ≠ 0 := by
  simp only [C16L.decode_vectors]; decide

/-- Clause "always places its PC-relative field inside the instruction": a non-zero `PCRel` is a width of 1, 2 or 4 bytes,
    starts after the first byte and ends inside `Len`. -/
theorem pcrel_inside (src : Bytes) (h : (decode src).pcrel ≠ 0) :
    ((decode src).pcrel = 1 ∨ (decode src).pcrel = 2 ∨ (decode src).pcrel = 4) ∧ 0 < (decode src).pcreloff ∧
      (decode src).pcreloff + (decode src).pcrel ≤ (decode src).len := by
  have := (C16L.decode_good src).pcrel h
  omega

/-- the hypothesis is satisfiable: `CALL rel32`, `JE rel8`, `MOV RAX, [RIP+disp32]` -/
example : (decode [0xe8#8, 0, 0, 0, 0]).pcrel = 4 ∧ (decode [0x74#8, 0x10]).pcrel = 1 ∧
    (decode [0x48#8, 0x8b, 0x05, 1, 0, 0, 0]).pcrel = 4 ∧ (decode [0x48#8, 0x8b, 0x05, 1, 0, 0, 0]).pcreloff = 3 := by
  simp only [C16L.decode_vectors]; decide

/-- … so the slice `code[PCRelOff : PCRelOff+PCRel]` taken by `DecodeRelativeAddr` / `fixIns` is inside the window. -/
theorem pcrel_slice_in_window (src : Bytes) (h : (decode src).pcrel ≠ 0) :
    (decode src).pcreloff + (decode src).pcrel ≤ src.length := by
  have := pcrel_inside src h
  have := err_len_le src
  omega

/-- What `fixBlock` (`internal/patch/fix_addr_amd64.go:63`, `if ins != nil && ins.Opcode != 0`) relies on for every relocatable
    instruction: a successful decode that reports a PC-relative field never has the numeric `Inst.Opcode` equal to 0.
    Proof: the per-pc certificate carries an abstract `Opcode` state `z` (0 = non-zero on every path, k+1 = at most k bytes shifted in,
    possibly all zero); the kernel-checked certificate requires `z = 0` at every `xArgRel8/16/32` and `z ≤ 4` (room for the ModR/M
    byte, or already non-zero) at every `xReadSlashR`/`xCondSlashR`; a RIP-relative ModR/M byte has `rm = 5`, hence is non-zero and
    is shifted into `Opcode`.  The unconditional variant ("every successful decode has Opcode ≠ 0") is false —
    `Findings/C16OpcodeZero.lean` (`00 00`, which has no PC-relative field). -/
theorem pcrel_opcode_nonzero (src : Bytes) (hok : (decode src).err = .ok) (hp : (decode src).pcrel ≠ 0) :
    (decode src).opcode ≠ 0 :=
  (C16L.decode_good src).opc hok hp

/-- the hypotheses are satisfiable; instances: `CALL rel32` (E8), `JE rel8` (74), `MOV RAX,[RIP+d]` (48 8B 05), `PSHUFB XMM0,[RIP+d]` (66 0F 38 00 05: ModRM is the
    fourth opcode byte and is recorded, Opcode = 0x0F380005) -/
example : (decode [0xe8#8, 0, 0, 0, 0]).opcode = 0xe8000000 ∧ (decode [0x74#8, 0x10]).opcode = 0x74000000 ∧
    (decode [0x48#8, 0x8b, 0x05, 1, 0, 0, 0]).opcode = 0x8b050000 ∧
    (decode [0x66#8, 0x0f, 0x38, 0x00, 0x05, 1, 0, 0, 0]).opcode = 0x0f380005 ∧
    (decode [0x66#8, 0x0f, 0x38, 0xdc, 0xc0]).opcode = 0x0f38dcc0 := by
  simp only [C16L.decode_vectors]; decide

/-- Consumers make progress: one iteration of the `pos = pos + ins.Len` loops strictly advances and stays inside the code. -/
theorem consumers_progress (code : Bytes) (pos p : Nat) (hp : pos ≤ code.length) (h : scanStep code pos = some p) :
    pos < p ∧ p ≤ code.length := by
  unfold scanStep at h
  dsimp only at h
  split at h
  · rename_i hok
    have := len_bounds (window code pos) hok
    have hw : (window code pos).length ≤ code.length - pos := by
      unfold window; rw [List.length_take, List.length_drop]; omega
    cases h
    omega
  · cases h

example : scanStep [0x55#8, 0x48, 0x89, 0xe5, 0xc3] 1 = some 4 := by
  have hw : window [0x55#8, 0x48, 0x89, 0xe5, 0xc3] 1 = [0x48, 0x89, 0xe5, 0xc3] := rfl
  simp only [scanStep, hw, C16L.decode_vectors]; decide

/-- … and therefore the scan loops terminate: with fuel `len(code) + 1` the loop always returns, inside the code. -/
theorem consumers_terminate (code : Bytes) : ∀ (f pos : Nat), pos ≤ code.length → code.length - pos < f →
    ∃ p, scanLoop code f pos = some p ∧ p ≤ code.length := by
  intro f
  induction f with
  | zero => intro pos _ h; omega
  | succ f ih =>
    intro pos hp hf
    unfold scanLoop
    split
    · exact ⟨pos, rfl, hp⟩
    · rename_i hlt
      cases hs : scanStep code pos with
      | none => exact ⟨pos, rfl, hp⟩
      | some p' =>
        have := consumers_progress code pos p' hp hs
        exact ih p' this.2 (by omega)

end C16
