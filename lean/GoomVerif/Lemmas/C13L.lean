import GoomVerif.Model.Reject
/-! For each call of the API one theorem walks its exits once and proves a single predicate that holds everything the property asks
of a rejection (`Clean`, or a `Rejecting Q`); the `…_rejected` / `…_shape` theorems of `Props/C13.lean` are its projections. -/
namespace C13L
open Reject

/-- signature.go:19/25: the slot lists have pairwise equal sizes iff the counts agree and the loop finds nothing -/
theorem map_size_eq_iff : ∀ (as bs : List Ty) (i : Nat),
    as.map (·.size) = bs.map (·.size) ↔ as.length = bs.length ∧ firstSizeMismatch as bs i = none
  | [], [], _ => by simp [firstSizeMismatch]
  | [], _ :: _, _ => by simp
  | _ :: _, [], _ => by simp
  | a :: as, b :: bs, i => by
    have ih := map_size_eq_iff as bs (i + 1)
    by_cases hs : a.size = b.size <;> simp [firstSizeMismatch, hs, ih]

theorem firstSizeMismatch_some : ∀ (as bs : List Ty) (i k : Nat), firstSizeMismatch as bs i = some k →
    ∃ j, k = i + j ∧ (∃ a b, as[j]? = some a ∧ bs[j]? = some b ∧ a.size ≠ b.size) ∧
      ∀ j', j' < j → ∃ a b, as[j']? = some a ∧ bs[j']? = some b ∧ a.size = b.size
  | [], _, _, _, h => by simp [firstSizeMismatch] at h
  | _ :: _, [], _, _, h => by simp [firstSizeMismatch] at h
  | a :: as, b :: bs, i, k, h => by
    unfold firstSizeMismatch at h
    split at h
    · cases h
      exact ⟨0, rfl, ⟨a, b, rfl, rfl, ‹_›⟩, fun _ h => absurd h (Nat.not_lt_zero _)⟩
    · obtain ⟨j, rfl, hj, hlt⟩ := firstSizeMismatch_some as bs (i + 1) k h
      refine ⟨j + 1, by omega, hj, fun j' hj' => ?_⟩
      cases j' with
      | zero => exact ⟨a, b, rfl, rfl, Decidable.not_not.mp ‹_›⟩
      | succ j' => exact hlt j' (Nat.lt_of_succ_lt_succ hj')

theorem upd_same {α} (f : Nat → α) (k : Nat) (v : α) : upd f k v k = v := if_pos rfl
theorem upd_other {α} (f : Nat → α) (k x : Nat) (v : α) (h : x ≠ k) : upd f k v x = f x := by simp [upd, h]

theorem upd_upd {α} (f : Nat → α) (k : Nat) (v w : α) : upd (upd f k v) k w = upd f k w := by
  funext x; unfold upd; split <;> rfl

theorem unpatchValue_tramp (g : G) (t : Nat) : (unpatchValue g t).tramp = g.tramp := by
  unfold unpatchValue
  split
  · rfl
  · split <;> rfl

theorem unpatchValue_patches (g : G) (t : Nat) : (unpatchValue g t).patches = upd g.patches t none := by
  unfold unpatchValue
  split
  · rename_i h
    funext x
    unfold upd
    split
    · subst x; exact h
    · rfl
  · split <;> rfl

theorem unpatchValue_text_of_ne (g : G) {t x : Nat} (h : x ≠ t) : (unpatchValue g t).text x = g.text x := by
  unfold unpatchValue
  split
  · rfl
  · split
    · exact upd_other _ _ _ _ h
    · rfl

theorem unpatchValue_text_self (g : G) (t : Nat) : (unpatchValue g t).text t = none ∨ (unpatchValue g t).text t = g.text t := by
  unfold unpatchValue
  split
  · exact .inr rfl
  · split
    · exact .inl (upd_same _ _ _)
    · exact .inr rfl

theorem unpatchValue_mocked (g : G) (t f : Nat) (h : mocked (unpatchValue g t) f = true) : mocked g f = true := by
  unfold mocked at h ⊢
  by_cases hf : f = t
  · subst hf
    rcases unpatchValue_text_self g f with h0 | h0 <;> rw [h0] at h
    · cases h
    · exact h
  · rwa [unpatchValue_text_of_ne g hf] at h

theorem unpatchValue_inert (g : G) (t : Nat) (h : ∀ e, g.patches t = some e → e.applied = false) :
    (unpatchValue g t).text = g.text ∧ (unpatchValue g t).writes = g.writes := by
  unfold unpatchValue
  split
  · exact ⟨rfl, rfl⟩
  · rename_i e he; rw [if_neg (by simp [h e he])]; exact ⟨rfl, rfl⟩

/-- the state `replaceFunc` has reached when its checks start (patch.go:106-109): an earlier patch of the target is taken
    back and the new one is registered, incomplete and not applied -/
def registered (g : G) (t repl : Nat) : G :=
  let g1 := if (g.patches t).isSome then unpatchValue g t else g
  { g1 with patches := upd g1.patches t (some ⟨repl, false, false⟩) }

theorem registered_eq (g : G) (t repl : Nat) :
    registered g t repl = { unpatchValue g t with patches := upd g.patches t (some ⟨repl, false, false⟩) } := by
  have : (if (g.patches t).isSome then unpatchValue g t else g) = unpatchValue g t := by
    unfold unpatchValue
    cases g.patches t <;> rfl
  unfold registered
  rw [this]
  dsimp only
  rw [unpatchValue_patches, upd_upd]

theorem registered_pristine {g : G} {t : Nat} (h : g.text t = none) (repl : Nat) : (registered g t repl).text t = none := by
  rw [registered_eq]
  rcases unpatchValue_text_self g t with h0 | h0
  · exact h0
  · exact h0.trans h

theorem replaceFunc_eq (g : G) (t fsize repl : Nat) (tr : Option Tramp) :
    replaceFunc g t fsize repl tr =
      let g2 := registered g t repl
      if jumpLen ≥ fsize then (g2, rej .funcSmall [.plain])
      else if (g2.text t).isSome then (g2, rej .alreadyPatched [.plain, .plain])
      else match tr with
        | none => ({ g2 with patches := upd g2.patches t (some ⟨repl, true, false⟩) }, pure ())
        | some tr =>
          if jumpLen ≥ tr.size then (g2, rej .trampSmall [.plain])
          else if tr.fixedLen > tr.size then (g2, rej .trampSmall [.plain])
          else ({ g2 with tramp := upd g2.tramp tr.id true, writes := g2.writes + 1,
                          patches := upd g2.patches t (some ⟨repl, true, false⟩) }, pure ()) := rfl

theorem replaceFunc_error {g g' : G} {t fs repl : Nat} {tr : Option Tramp} {e : Rej}
    (h : replaceFunc g t fs repl tr = (g', .error e)) :
    g' = registered g t repl ∧
      (e = ⟨.funcSmall, [.plain]⟩ ∨ e = ⟨.alreadyPatched, [.plain, .plain]⟩ ∨ e = ⟨.trampSmall, [.plain]⟩) := by
  rw [replaceFunc_eq] at h
  dsimp only at h
  by_cases c1 : jumpLen ≥ fs
  · rw [if_pos c1] at h; cases h; exact ⟨rfl, .inl rfl⟩
  rw [if_neg c1] at h
  by_cases c2 : ((registered g t repl).text t).isSome
  · rw [if_pos c2] at h; cases h; exact ⟨rfl, .inr (.inl rfl)⟩
  rw [if_neg c2] at h
  cases tr with
  | none => cases h
  | some tr =>
    dsimp only at h
    by_cases c3 : jumpLen ≥ tr.size
    · rw [if_pos c3] at h; cases h; exact ⟨rfl, .inr (.inr rfl)⟩
    rw [if_neg c3] at h
    by_cases c4 : tr.fixedLen > tr.size
    · rw [if_pos c4] at h; cases h; exact ⟨rfl, .inr (.inr rfl)⟩
    rw [if_neg c4] at h
    cases h

theorem leadingTraceable_of_ne {t : ErrT} (h : t ≠ .traceable) (rest : List ErrT) : leadingTraceable (t :: rest) = 0 := by
  cases t <;> first | rfl | exact absurd rfl h

theorem probeChain_cons (e : GoErr) : ∃ rest, probeChain e = e.tag :: rest := by
  cases e with
  | leaf t => exact ⟨[], rfl⟩
  | wrap t c => unfold probeChain; split <;> exact ⟨_, rfl⟩

def Good {α} (x : R α) : Prop := ∀ r, x = .error r → r.shape = true

theorem good_ok {α} (a : α) : Good (.ok a : R α) := by intro r h; cases h
theorem good_pure {α} (a : α) : Good (pure a : R α) := good_ok a
theorem good_rej {α} (c : Cls) (ch : List ErrT) (h : (Rej.mk c ch).shape = true) : Good (rej c ch : R α) := by
  intro r hr; cases hr; exact h

/-- an exit that rejects with a class and chain written out, on which `Rej.shape` computes -/
theorem good_exit {α} {c : Cls} {ch : List ErrT} (h : (Rej.mk c ch).shape = true := by rfl) : Good (rej c ch : R α) :=
  good_rej c ch h

theorem good_bind {α β} {x : R α} {f : α → R β} (hx : Good x) (hf : ∀ a, Good (f a)) : Good (x >>= f) := by
  cases x with
  | error e => intro r h; cases h; exact hx e rfl
  | ok a => exact hf a

theorem good_seq_pure {α β} {x : R α} (hx : Good x) (b : β) : Good (x >>= fun _ => pure b) :=
  good_bind hx fun _ => good_pure b

theorem good_ite {α} {c : Prop} [Decidable c] {x y : R α} (hx : Good x) (hy : Good y) : Good (if c then x else y) := by
  split <;> assumption

theorem Good.error {α β} {x : R α} (hx : Good x) {e : Rej} (h : x = .error e) : Good (.error e : R β) := by
  intro r hr; cases hr; exact hx e h

theorem good_sigOf (v : V) : Good (sigOf v) := by
  cases v with
  | fn s => exact good_pure s
  | _ => exact good_exit

/-- signature.go:11-29: `SignatureEquals` rejects by panicking with a string -/
theorem signatureEquals_error {a b : Sig} {e : Rej} (h : signatureEquals a b = .error e) :
    ∃ c, e = ⟨c, [.str]⟩ ∧ e.shape = true := by
  unfold signatureEquals at h
  split at h
  · cases h; exact ⟨_, rfl, rfl⟩
  · split at h
    · cases h; exact ⟨_, rfl, rfl⟩
    · split at h
      · cases h; exact ⟨_, rfl, rfl⟩
      · split at h
        · cases h; exact ⟨_, rfl, rfl⟩
        · cases h

theorem good_checkTrampolineFunc (o : OriginV) : Good (checkTrampolineFunc o) := by
  cases o with
  | value k => exact good_ite good_exit good_exit
  | ptrTo k => exact good_exit
  | _ => exact good_pure _

theorem good_addResult (vs : List V) (outs : List Ty) : Good (addResult vs outs) := by
  unfold addResult
  split <;> first | exact good_pure _ | exact good_exit

theorem good_newDefaultMatch (a : List V) (m : Bool) (s : Sig) : Good (newDefaultMatch a m s) := by
  unfold newDefaultMatch
  dsimp only
  split <;> first | exact good_pure _ | exact good_exit

theorem good_lookupCheck (n : String) (f : Bool) : Good (lookupCheck n f) :=
  good_ite good_exit (good_ite good_exit (good_pure _))

theorem good_nonFuncCall (k : Kind) : Good (nonFuncCall k) := good_ite good_exit good_exit

theorem good_exportCall (f : ExportForm) (a b c : Bool) : Good (exportCall f a b c) :=
  good_ite good_exit (good_ite (good_ite good_exit good_exit) (good_pure _))

theorem good_ifaceMethod (v : IfaceVar) (n : String) (f : Bool) : Good (ifaceMethod v n f) := by
  refine good_ite good_exit (good_ite good_exit ?_)
  cases v with
  | value k hm => exact good_ite (good_ite (good_pure _) good_exit) good_exit
  | nilValue => exact good_exit
  | _ => exact good_ite (good_pure _) good_exit

theorem good_ifaceSignature (m cb : Sig) : Good (ifaceSignature m cb) := by
  refine good_ite good_exit (good_ite good_exit (good_ite good_exit ?_))
  split
  · exact good_pure _
  · exact good_exit

theorem good_applyIface (v : IfaceVar) (m : Sig) (cb : V) : Good (applyIface v m cb) := by
  unfold applyIface
  cases cb with
  | fn c =>
    dsimp only
    cases c.ins with
    | nil => exact good_exit
    | cons first _ =>
      refine good_ite good_exit ?_
      cases v with
      | ptrIface => exact good_ifaceSignature m c
      | _ => exact good_exit
  | _ => exact good_exit

/-- iface.go / interface.go:23,28: whatever the callback, something handed to `Interface` that is not a pointer to an interface
    variable is rejected -/
theorem applyIface_rejects {v : IfaceVar} (hv : v ≠ .ptrIface) (m : Sig) (cb : V) : ∃ e, applyIface v m cb = .error e := by
  unfold applyIface
  cases cb with
  | fn c =>
    dsimp only
    cases c.ins with
    | nil => exact ⟨_, rfl⟩
    | cons first _ =>
      dsimp only
      split
      · exact ⟨_, rfl⟩
      · cases v with
        | ptrIface => exact absurd rfl hv
        | _ => exact ⟨_, rfl⟩
  | _ => exact ⟨_, rfl⟩

theorem ifaceCall_rejects {v : IfaceVar} (hv : v ≠ .ptrIface) (name : String) (found : Bool) (m : Sig)
    (act : IfaceAction) : ∃ e, ifaceCall v name found m act = (.error e, false) := by
  -- past the method lookup and the value checks every action installs through `applyIface`, whatever it goes on to do
  have install (cb : V) (k : R Unit × Bool) : ∃ e, (match applyIface v m cb with
      | .error e => (Except.error e, false) | .ok _ => k) = (.error e, false) := by
    obtain ⟨e, he⟩ := applyIface_rejects hv m cb
    rw [he]
    exact ⟨e, rfl⟩
  unfold ifaceCall
  split
  next e _ => exact ⟨e, rfl⟩
  next =>
    cases act with
    | apply cb => exact install cb _
    | asRet fn vals =>
      dsimp only
      split
      next e _ => exact ⟨e, rfl⟩
      next => exact install (.fn fn) _
    | asWhen fn args ret =>
      dsimp only
      split
      next e _ => exact ⟨e, rfl⟩
      next => exact install (.fn fn) _

theorem good_inParam (s : Sig) (m : Bool) (i : Nat) (a : InArg) : Good (inParam s m i a) := by
  cases a with
  | list vs => exact good_pure vs
  | bare v =>
    refine good_ite ?_ (good_pure _)
    cases v with
    | val t => exact good_ite (good_pure _) (good_pure _)
    | _ => exact good_pure _

theorem good_checkParams (s : Sig) (a r : Option (List V)) (m : Bool) : Good (checkParams s a r m) := by
  unfold checkParams
  cases r <;> cases a
  · exact good_pure _
  · exact good_ite good_exit (good_pure _)
  · exact good_ite good_exit (good_pure _)
  · exact good_ite good_exit (good_ite good_exit (good_pure _))

theorem good_createWhen (s : Sig) (a d : Option (List V)) (m : Bool) : Good (createWhen s a d m) := by
  -- the tail both branches of `defaults` run into: when.go:61 / :56
  have tail (b : Bool) : Good (match a with
      | some as => do newDefaultMatch as m s; pure ⟨true, b⟩
      | none => pure ⟨b, b⟩ : R WhenSt) := by
    cases a with
    | none => exact good_pure _
    | some as => exact good_seq_pure (good_newDefaultMatch as m s) _
  unfold createWhen
  refine good_bind (good_checkParams s a d m) fun _ => ?_
  cases d with
  | none => exact tail _
  | some ds => exact good_bind (good_addResult ds s.outs) fun _ => tail _

theorem good_whenReturn (w : WhenSt) (s : Sig) (v : Option (List V)) : Good (whenReturn w s v) := by
  unfold whenReturn
  refine good_ite (good_seq_pure (good_addResult _ _) _) (good_ite ?_ (good_seq_pure (good_addResult _ _) _))
  cases v with
  | none => exact good_pure w
  | some vs => exact good_seq_pure (good_addResult _ _) _

theorem good_createWS (s : Sig) (a : Option (List V)) (hit : Bool) (d : Option (List V)) (m : Bool) :
    Good (createWS s a hit d m) := by
  unfold createWS
  refine good_bind (good_createWhen s a d m) fun _ => ?_
  cases a <;> exact good_pure _

theorem good_wWhen (s : Sig) (m : Bool) (w : WS) (a : Option (List V)) (hit : Bool) : Good (wWhen s m w a hit) :=
  good_seq_pure (good_newDefaultMatch _ m s) _

theorem good_wReturn (s : Sig) (w : WS) (v : Option (List V)) : Good (wReturn s w v) := by
  unfold wReturn
  refine good_ite (good_seq_pure (good_addResult _ _) _) (good_ite ?_ (good_seq_pure (good_addResult _ _) _))
  cases v with
  | none => exact good_pure w
  | some vs => exact good_seq_pure (good_addResult _ _) _

theorem good_wAndReturn (s : Sig) (w : WS) (v : Option (List V)) : Good (wAndReturn s w v) :=
  good_ite (good_wReturn s w v) (good_seq_pure (good_addResult _ s.outs) w)

theorem good_wReturns (s : Sig) : ∀ (gs : List (List V)) (w : WS) (i : Nat), Good (wReturns s w gs i).2
  | [], _, _ => good_pure ()
  | g :: rest, w, i => by
    unfold wReturns
    split
    next e he => exact (good_ite (good_wReturn s w _) (good_wAndReturn s w _)).error he
    next w1 _ => exact good_wReturns s rest w1 (i + 1)

theorem good_wIn (s : Sig) (m : Bool) (w : WS) : ∀ (gs : List (InArg × Bool)) (i : Nat) (hit : Bool), Good (wIn s m w gs i hit)
  | [], _, _ => good_pure _
  | (g, h) :: rest, i, hit => by
    unfold wIn
    split
    next e he => exact (good_inParam s m i g).error he
    next =>
      split
      next => exact good_wIn s m w rest _ _
      all_goals exact good_exit

theorem good_wMatches (s : Sig) (m : Bool) : ∀ (ps : List (List V × Bool × List V)) (w : WS), Good (wMatches s m w ps).2
  | [], _ => good_pure ()
  | (a, hit, r) :: rest, w => by
    unfold wMatches
    split
    next e he => exact (good_newDefaultMatch a m s).error he
    next =>
      split
      next e he => exact (good_addResult r s.outs).error he
      next => exact good_wMatches s m rest _

/-- stated over the literal `match` that `whenStep` unfolds to, so that it applies after `dsimp only [whenStep]` -/
theorem good_step {x : R WS} (hx : Good x) (w : WS) :
    Good (match (generalizing := false) x with | .ok w1 => (w1, (pure () : R Unit)) | .error e => (w, .error e)).2 := by
  cases x with
  | ok w1 => exact good_pure ()
  | error e => exact hx.error rfl

theorem good_whenStep (s : Sig) (m : Bool) (w : WS) (st : Step) : Good (whenStep s m w st).2 := by
  cases st with
  | returns gs => exact good_wReturns s gs w 0
  | matchPairs ps => exact good_wMatches s m ps w
  | ret v => dsimp only [whenStep]; exact good_step (good_wReturn s w v) w
  | when_ a hit => dsimp only [whenStep]; exact good_step (good_wWhen s m w a hit) w
  | andReturn v => dsimp only [whenStep]; exact good_step (good_wAndReturn s w v) w
  | in_ gs => dsimp only [whenStep]; exact good_step (good_wIn s m w gs 0 false) w
  | _ => exact good_pure ()

/-- patch.go:60-70 for a function target: a function is rejected by the signature check only, anything else makes
    reflect panic; the kind checks that follow never fire -/
theorem patchValueChecks_fn (a : Sig) (cb : V) :
    patchValueChecks (.fn a) cb = match cb with | .fn b => signatureEquals a b | _ => rReflect := by
  cases cb with
  | fn b =>
    show (signatureEquals a b >>= fun _ => _) = signatureEquals a b
    cases signatureEquals a b <;> rfl
  | _ => rfl

/-- mocker.go:92-95: what these checks raise is a panic already, and passes through unchanged -/
theorem patchValueChecks_fn_error {a : Sig} {cb : V} {e : Rej} (h : patchValueChecks (.fn a) cb = .error e) :
    asPanicString e = e ∧ e.shape = true := by
  rw [patchValueChecks_fn] at h
  cases cb with
  | fn b => obtain ⟨c, rfl, hs⟩ := signatureEquals_error h; exact ⟨rfl, hs⟩
  | _ => cases h; exact ⟨rfl, rfl⟩

/-- mocker.go:90: a rejection is raised before `replaceFunc`, with the state as it was, or by `replaceFunc` -/
theorem applyByFunc_error {g g' : G} {tg : Target} {cb : V} {o : OriginV} {repl : Nat} {e : Rej}
    (h : applyByFunc g tg cb o repl = (g', .error e)) :
    e.shape = true ∧ (g' = g ∨ g' = registered g tg.id repl ∧
      (e.cls = .funcSmall ∨ e.cls = .alreadyPatched ∨ e.cls = .trampSmall)) := by
  unfold applyByFunc at h
  split at h
  next e1 h1 => cases h; exact ⟨good_checkTrampolineFunc o _ h1, .inl rfl⟩
  next tr _ =>
    split at h
    next e2 h2 =>
      cases h
      rw [(patchValueChecks_fn_error h2).1]
      exact ⟨(patchValueChecks_fn_error h2).2, .inl rfl⟩
    next =>
      split at h
      next g1 e3 h3 =>
        cases h
        obtain ⟨rfl, rfl | rfl | rfl⟩ := replaceFunc_error h3
        · exact ⟨rfl, .inr ⟨rfl, .inl rfl⟩⟩
        · exact ⟨rfl, .inr ⟨rfl, .inr (.inl rfl)⟩⟩
        · exact ⟨rfl, .inr ⟨rfl, .inr (.inr rfl)⟩⟩
      next => cases h

section
variable {g g' g1 : G} {tg : Target} {cb : V} {o : OriginV} {t repl : Nat} {e : Rej}

def Kept (g g' : G) (t repl : Nat) : Prop := g' = g ∨ g' = registered g t repl

theorem applyByFunc_kept (h : applyByFunc g tg cb o repl = (g', .error e)) : Kept g g' tg.id repl :=
  (applyByFunc_error h).2.imp_right And.left

def Clean (t repl : Nat) (out : Outcome) : Prop :=
  ∀ e, out.res = .error e → (Kept out.gBefore out.g t repl ∧ out.beh = out.behBefore) ∧ e.shape = true

theorem Clean.of_good {α} {x : R α} (hx : Good x) (h : x = .error e) {b : Beh} :
    Clean t repl ⟨g, .error e, g, b, b⟩ :=
  fun _ h' => by cases h'; exact ⟨⟨.inl rfl, rfl⟩, hx e h⟩

theorem Clean.of_apply {r : R Unit} (h : applyByFunc g tg cb o repl = (g1, r)) {pre b : Beh}
    (hb : ∀ e, r = .error e → b = pre) : Clean tg.id repl ⟨g1, r, g, pre, b⟩ :=
  fun e h' => by cases h'; exact ⟨⟨applyByFunc_kept h, hb e rfl⟩, (applyByFunc_error h).1⟩

/-- `When(args)[.Return(vals)]` of a function or method, once `CreateWhen` has accepted: install the stub, then the
    optional `Return` on the handle (whose rejection leaves the installed stub as the state before) -/
theorem Clean.whenTail (g : G) (tg : Target) (pre : Beh) (o : OriginV) (repl : Nat) (w : WhenSt)
    (ret : Option (Option (List V))) :
    Clean tg.id repl (match (generalizing := false) applyByFunc g tg (.fn tg.sig) o repl with
      | (g1, .error e) => ⟨g1, .error e, g, pre, pre⟩
      | (g1, .ok _) =>
        match (generalizing := false) ret with
        | none => ⟨g1, pure (), g, pre, if w.hasDefault then .stub else .nomatch⟩
        | some vals =>
          match (generalizing := false) whenReturn w tg.sig vals with
          | .error e => ⟨g1, .error e, g1, if w.hasDefault then .stub else .nomatch, if w.hasDefault then .stub else .nomatch⟩
          | .ok w2 => ⟨g1, pure (), g, pre, if w.hasCur || w2.hasDefault then .stub else .nomatch⟩) := by
  split
  next g1 e1 h1 => exact Clean.of_apply h1 fun _ _ => rfl
  next g1 _ =>
    split
    next => exact fun _ h => nomatch h
    next vals =>
      split
      next e2 h2 => exact Clean.of_good (good_whenReturn _ _ _) h2
      next => exact fun _ h => nomatch h

theorem funcCall_clean (g : G) (tg : Target) (pre : Beh) (o : OriginV) (repl : Nat) (act : Action) :
    Clean tg.id repl (funcCall g tg pre o repl act) := by
  cases act with
  | apply cb =>
    dsimp only [funcCall]
    exact Clean.of_apply (Prod.eta _).symm fun e h => by rw [h]
  | ret vals =>
    dsimp only [funcCall]
    split
    next e0 h0 => exact Clean.of_good (good_createWhen _ _ _ _) h0
    next w _ => exact Clean.of_apply (Prod.eta _).symm fun e h => by rw [h]
  | when_ args ret =>
    dsimp only [funcCall]
    split
    next e0 h0 => exact Clean.of_good (good_createWhen _ _ _ _) h0
    next w _ => exact Clean.whenTail g tg pre o repl w ret

theorem methodCall_clean (g : G) (name : String) (found : Bool) (tg : Target) (repl : Nat) (act : Action) :
    Clean tg.id repl (methodCall g name found tg repl act) := by
  unfold methodCall
  by_cases hn : name = ""
  · rw [if_pos hn]; exact Clean.of_good (x := (rStr .methodEmpty : R Unit)) good_exit rfl
  · rw [if_neg hn]
    by_cases hf : (!found) = true
    · rw [if_pos hf]; exact Clean.of_good (x := (rStr .methodNotFound : R Unit)) good_exit rfl
    · rw [if_neg hf]
      cases act with
      | apply cb =>
        dsimp only
        exact Clean.of_apply (Prod.eta _).symm fun e h => by rw [h]
      | ret vals =>
        dsimp only
        split
        next e0 h0 => exact Clean.of_good (good_createWhen _ _ _ _) h0
        next w _ => exact Clean.of_apply (Prod.eta _).symm fun e h => by rw [h]
      | when_ args ret =>
        dsimp only
        split
        next e0 h0 => exact Clean.of_good (good_createWhen _ _ _ _) h0
        next w _ => exact Clean.whenTail g tg .orig .none repl w ret

def Rejecting {σ} (Q : σ → Prop) (p : σ × R Unit) : Prop := ∀ e, p.2 = .error e → Q p.1 ∧ e.shape = true

theorem Rejecting.elim {σ} {Q : σ → Prop} {p : σ × R Unit} {s' : σ} (c : Rejecting Q p) (h : p = (s', .error e)) :
    Q s' ∧ e.shape = true := by
  subst h; exact c e rfl

theorem Rejecting.of_good {σ} {Q : σ → Prop} {x : R Unit} (hx : Good x) {s : σ} (hs : Q s) : Rejecting Q (s, x) :=
  fun e h => ⟨hs, hx e h⟩

theorem Rejecting.mono {σ} {Q Q' : σ → Prop} {p : σ × R Unit} (c : Rejecting Q p) (h : ∀ s, Q s → Q' s) : Rejecting Q' p :=
  fun e he => ⟨h _ (c e he).1, (c e he).2⟩

/-- of a step of a function or method mocker: if it is rejected, the state is kept in the same sense and the entry
    jumps where it did -/
def CleanStep (ms : MS) (t repl : Nat) : MS × R Unit → Prop :=
  Rejecting fun ms' => Kept ms.g ms'.g t repl ∧ ms'.imp = ms.imp

theorem CleanStep.of_apply {ms ms' : MS} (h : applyByFunc ms.g tg cb o repl = (ms'.g, .error e))
    (hi : ms'.imp = ms.imp) : CleanStep ms tg.id repl (ms', .error e) :=
  fun _ h' => by cases h'; exact ⟨⟨applyByFunc_kept h, hi⟩, (applyByFunc_error h).1⟩

theorem seqFirst_clean (tg : Target) (isM : Bool) (repl : Nat) (ms : MS) (st : Step) :
    CleanStep ms tg.id repl (seqFirst tg isM repl ms st) := by
  unfold seqFirst
  dsimp only
  split
  next e h1 =>
    refine Rejecting.of_good (Good.error ?_ h1) ⟨.inl rfl, rfl⟩
    split <;> first | exact good_createWS _ _ _ _ _ | exact good_exit
  next w0 _ =>
    split
    next e h2 =>
      refine Rejecting.of_good (Good.error ?_ (congrArg Prod.snd h2)) ⟨.inl rfl, rfl⟩
      split
      · exact good_wReturns _ _ _ _
      · exact good_pure ()
    next w1 _ =>
      split
      next g1 e h3 => exact CleanStep.of_apply h3 rfl
      next => exact fun _ h => nomatch h

theorem seqStep_clean (tg : Target) (isM : Bool) (repl : Nat) (ms : MS) (st : Step) :
    CleanStep ms tg.id repl (seqStep tg isM repl ms st) := by
  unfold seqStep
  split
  · exact fun _ h => nomatch h
  · exact fun _ h => nomatch h
  · exact fun _ h => nomatch h
  · exact Rejecting.of_good (good_lookupCheck _ _) ⟨.inl rfl, rfl⟩
  · split
    next g1 e h => exact CleanStep.of_apply h rfl
    next => exact fun _ h => nomatch h
  · dsimp only
    split
    -- a call that only adds matchers never touches the image at all
    next w _ => exact Rejecting.of_good (good_whenStep tg.sig isM w _) ⟨.inl rfl, rfl⟩
    next => exact seqFirst_clean tg isM repl ms _

def Untouched (s : IS) : IS × R Unit → Prop := Rejecting (· = s)

theorem ifaceFirst_clean (m : Sig) (s : IS) (st : Step) : Untouched s (ifaceFirst m s st) := by
  unfold ifaceFirst
  dsimp only
  split
  next e h1 =>
    refine Rejecting.of_good (Good.error ?_ h1) rfl
    split
    · exact good_createWS _ _ _ _ _
    · exact good_createWS _ _ _ _ _
    · refine good_bind (good_createWS _ _ _ _ _) fun w0 => ?_
      split
      · exact good_pure _
      next e he => exact (good_wReturns _ _ _ _).error (congrArg Prod.snd he)
    · exact good_exit
  next w1 _ =>
    split
    next e h2 => exact Rejecting.of_good ((good_applyIface _ _ _).error h2) rfl
    next => exact fun _ h => nomatch h

/-- steps of an interface-method mocker in general: once a `When` exists a rejected call may have changed it, nothing else -/
def CleanIface (s : IS) : IS × R Unit → Prop :=
  Rejecting fun s' => s'.set = s.set ∧ s'.imp = s.imp ∧ s'.fn = s.fn ∧ (s.when = none → s' = s)

theorem Untouched.clean {s : IS} {p : IS × R Unit} (u : Untouched s p) : CleanIface s p :=
  u.mono fun _ h => h ▸ ⟨rfl, rfl, rfl, fun _ => rfl⟩

theorem ifaceMainStep_clean (m : Sig) (s : IS) (st : Step) : CleanIface s (ifaceMainStep m s st) := by
  unfold ifaceMainStep
  split
  · exact fun _ h => nomatch h
  · exact fun _ h => nomatch h
  · exact fun _ h => nomatch h
  · exact Untouched.clean (Rejecting.of_good (good_lookupCheck _ _) rfl)
  · split
    next e h => exact Untouched.clean (Rejecting.of_good ((good_applyIface _ _ _).error h) rfl)
    next => exact fun _ h => nomatch h
  · dsimp only
    split
    next w hw =>
      exact fun e h => ⟨⟨rfl, rfl, rfl, fun hn => by rw [hw] at hn; cases hn⟩, good_whenStep s.fn true w _ e h⟩
    next => exact (ifaceFirst_clean m s _).clean

theorem good_ifaceCall (v : IfaceVar) (name : String) (found : Bool) (m : Sig) (act : IfaceAction) :
    Good (ifaceCall v name found m act).1 := by
  unfold ifaceCall
  split
  next e h0 => exact (good_ifaceMethod _ _ _).error h0
  next =>
    cases act <;> dsimp only
    · split
      next e h => exact (good_applyIface _ _ _).error h
      next => exact good_pure ()
    · split
      next e h => exact (good_createWhen _ _ _ _).error h
      next =>
        split
        next e h => exact (good_applyIface _ _ _).error h
        next => exact good_pure ()
    · split
      next e h => exact (good_createWhen _ _ _ _).error h
      next w _ =>
        split
        next e h => exact (good_applyIface _ _ _).error h
        next =>
          split
          next => exact good_pure ()
          next vals =>
            split
            next e h => exact (good_whenReturn _ _ _).error h
            next => exact good_pure ()

theorem good_fmApply (g : G) (tg : Target) (cb : V) (repl : Nat) : Good (fmApply g tg cb repl).2 := by
  unfold fmApply
  split
  next =>
    split
    next g1 e h => obtain ⟨_, rfl | rfl | rfl⟩ := replaceFunc_error h <;> exact good_exit
    next => exact good_pure ()
  next => exact good_exit

theorem good_fmCall (g : G) (tg : Target) (msig : Sig) (repl : Nat) (act : Action) :
    Good (fmCall g tg msig repl act).2.1 := by
  -- every action ends in the same by-name installation
  have install {cb : V} {g1 : G} {e : Rej} {b : Option Beh} (h : fmApply g tg cb repl = (g1, .error e)) :
      Good (g1, (.error e : R Unit), b).2.1 := (good_fmApply g tg cb repl).error (congrArg Prod.snd h)
  cases act <;> dsimp only [fmCall]
  · split
    next g1 e h => exact install h
    next => exact good_pure ()
  · split
    next e h => exact (good_createWhen _ _ _ _).error h
    next w _ =>
      split
      next g1 e h => exact install h
      next => exact good_pure ()
  · split
    next e h => exact (good_createWhen _ _ _ _).error h
    next w _ =>
      split
      next g1 e h => exact install h
      next =>
        split
        next => exact good_pure ()
        next vals =>
          split
          next e h => exact (good_whenReturn _ _ _).error h
          next => exact good_pure ()

end

end C13L
