import GoomVerif.Props.C17
/-! goom's arm64 "already patched" sentinel is not a NOP (NOT an obligation of C17; if goom is repaired this file simply stops being true).

    `internal/patch/monkey_arm64.go:15  var nopOpcode = []byte{0xD5, 0x03, 0x20, 0x1F}` is meant to be the arm64 NOP, used by
    `checkAlreadyPatch` as the "already patched" sentinel.  AArch64 instructions are little-endian: the NOP word 0xD503201F is the
    byte sequence 1F 20 03 D5.  Read as an instruction (as the CPU and `arm64asm.Decode` do), goom's four bytes are the word
    0x1F2003D5, which goom's own decoder never decodes to NOP (it is an FNMADD encoding).  Moreover the arm64 entry jump does not
    start with this sentinel at all (it starts with MOVZ/MOV X26, see `C17.emitted_entry_jump_decodes`), so `checkAlreadyPatch` can
    never recognise a function patched by goom on arm64. -/
namespace Findings.C17
open Gen.A64 A64Dec C17L _root_.C17

theorem nop_sentinel_word : wordsOf Gen.Arm64.nopOpcode = [0x1f2003d5#32] := by decide

theorem nop_sentinel_is_not_nop (env : Env) : (decode env 0x1f2003d5#32).map (fun r => opName r.op) ≠ some "NOP" := by
  intro h
  obtain ⟨r, hd, hn⟩ := Option.map_eq_some_iff.mp h
  obtain ⟨row, hm, ho, hv, _⟩ := decodeFrom_row env table 0 r hd
  -- no row that matches the word is named NOP
  have := forall_table (fun r => (0x1f2003d5#32 &&& r.mask != r.value) || opName r.op != "NOP") (by decide +kernel) row hm
  simp [hv, ho, hn] at this

theorem nop_word_bytes_reversed : wordsOf [0x1f#8, 0x20#8, 0x03#8, 0xd5#8] = [0xd503201f#32] := by decide

end Findings.C17
