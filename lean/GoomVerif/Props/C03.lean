import GoomVerif.Lemmas.C03L
import GoomVerif.Props.C15
/-!
# C03 — calling the origin placeholder runs the unmodified original (relocation arithmetic)

All theorems are about `Reloc.*` with `Cfg.fixed` (the code as repaired by fixes F2/F3), which calls the
`EncodeAddress`/`DecodeAddress`/`opExpand` definitions regenerated from `internal/bytecode/addr.go` and the jump emitter
regenerated from `internal/patch/monkey_amd64.go`.  They quantify over **every** instruction list that meets the decoder
contract `C03L.WF`, every origin/placeholder address pair within reach and every position.
-/
namespace C03
open Reloc C03L

/-- the `add` operand of `EncodeAddress` is the integer distance origin − (placeholder + growth) when that is small -/
theorem add_toInt (from_ tramp : BitVec 64) (g : Int) (hg1 : -2^20 ≤ g) (hg2 : g ≤ 2^20)
    (hd1 : -2^31 ≤ (from_.toNat : Int) - tramp.toNat) (hd2 : (from_.toNat : Int) - tramp.toNat ≤ 2^31) :
    (from_ - tramp - BitVec.ofInt 64 g).toInt = (from_.toNat : Int) - tramp.toNat - g := by
  rw [sub_sub_ofInt]
  exact toInt_ofInt 63 (by omega) (by omega)

theorem neg_toInt (g : Int) (hg1 : -2^20 ≤ g) (hg2 : g ≤ 2^20) : (- BitVec.ofInt 64 g).toInt = - g := by
  rw [← BitVec.ofInt_neg]
  exact toInt_ofInt 63 (by omega) (by omega)

/-- **per-instruction relocation** (`fixIns` of fix_addr_amd64.go, as repaired): the image keeps every byte outside the
    PC-relative field (`Shape`, trailing immediates `i.tail` included) and moves the displacement by exactly the distance
    the instruction itself moved when its target is outside `[0, bs)`; a backward target inside the copy is moved by the
    growth in between; everything else is copied verbatim. `g` is the growth so far; `hr1`, `hr2`, `hb` keep the moved displacement encodable
    (a widening subtracts up to 4 from it; `hb` is for a backward branch inside the copy, whose displacement loses `g`). -/
theorem fixIns_spec (i : Ins) (hw : WF i) (hp : i.pcrelOff ≠ 0) (pos : Nat) (bs : Int) (from_ tramp : BitVec 64) (g : Int) (o : Reloc.Bytes)
    (hg1 : -2^20 ≤ g) (hg2 : g ≤ 2^20)
    (hd1 : -2^31 + 2^21 ≤ (from_.toNat : Int) - tramp.toNat) (hd2 : (from_.toNat : Int) - tramp.toNat < 2^31 - 2^21)
    (hr1 : -2^31 + 8 ≤ sdisp i.field + ((from_.toNat : Int) - tramp.toNat - g))
    (hr2 : sdisp i.field + ((from_.toNat : Int) - tramp.toNat - g) < 2^31)
    (hb : -2^30 ≤ sdisp i.field - g ∨ 0 ≤ sdisp i.field)
    (h : fixIns Cfg.fixed i pos bs from_ tramp g = .ok o) :
    ∃ pre' f', o = pre' ++ f' ++ i.tail ∧ Shape i pre' f' ∧
      (let a := sdisp i.field
       let t : Int := a + pos + i.len
       ((0 < a ∧ bs ≤ t) ∨ (a < 0 ∧ t < 0) → sdisp f' + (o.length : Int) = a + i.len + ((from_.toNat : Int) - tramp.toNat - g)) ∧
       (a < 0 → 0 ≤ t → sdisp f' + (o.length : Int) = a + i.len - g) ∧
       (a = 0 ∨ (0 < a ∧ t < bs) → o = i.bytes)) := by
  have hA := add_toInt from_ tramp g hg1 hg2 (by omega) (by omega)
  have hN := neg_toInt g hg1 hg2
  unfold fixIns at h
  simp only [hp, if_false, decodeRel_wf hw hp, Cfg.fixed, if_true, true_and] at h
  by_cases hout : (0 < sdisp i.field ∧ bs ≤ sdisp i.field + pos + i.len) ∨ (sdisp i.field < 0 ∧ sdisp i.field + pos + i.len < 0)
  · rw [if_pos hout] at h
    split at h
    next => exact nomatch h
    next r hr =>
      obtain ⟨pre', f', rfl, hsh, hsd⟩ := encode_spec hw hp hA hr1 hr2 hr
      rw [if_pos (hsh.length hw hp).2.2] at h
      injection h with h; subst h
      -- the other two clauses are void by `hout` alone: nothing else is needed in the context
      clear hg1 hg2 hd1 hd2 hr1 hr2 hb hA hN
      exact ⟨pre', f', rfl, hsh, fun _ => hsd, fun h1 h2 => by omega, fun h1 => by omega⟩
  · rw [if_neg hout] at h
    by_cases hin : g ≠ 0 ∧ sdisp i.field < 0
    · rw [if_pos hin] at h
      split at h
      next => exact nomatch h
      next r hr =>
        obtain ⟨pre', f', rfl, hsh, hsd⟩ := encode_spec hw hp hN (by omega) (by omega) hr
        injection h with h; subst h
        rw [← Int.sub_eq_add_neg] at hsd
        clear hg1 hg2 hd1 hd2 hr1 hr2 hb hA hN
        exact ⟨pre', f', rfl, hsh, fun h1 => absurd h1 hout, fun _ _ => hsd, fun h1 => by omega⟩
    · rw [if_neg hin] at h
      injection h with h; subst h
      refine ⟨i.pre, i.field, bytes_split i, .inl ⟨rfl, (split_lengths hw hp).2.1⟩, fun h1 => absurd h1 hout, fun h1 _ => ?_, fun _ => rfl⟩
      have hg : g = 0 := Decidable.byContradiction fun hg => hin ⟨hg, h1⟩
      rw [hw.len_eq, hg, Int.sub_zero]

/-- `out` is the concatenation of the `fixIns` images of the instructions of `prog` from original offset `pos`
    (new offset `npos`) up to original offset `n` — whole instructions only, none dropped, none added. -/
def Copied (from_ tramp : BitVec 64) (bs : Int) : List Ins → Nat → Nat → Reloc.Bytes → Nat → Prop
  | [], pos, _, out, n => pos = n ∧ out = []
  | i :: rest, pos, npos, out, n =>
    (pos = n ∧ out = []) ∨
    (pos < n ∧ ∃ o out', out = o ++ out' ∧ fixIns Cfg.fixed i pos bs from_ tramp ((npos : Int) - pos) = .ok o ∧
      Copied from_ tramp bs rest (pos + i.len) (npos + o.length) out' n)

theorem Copied_done (from_ tramp : BitVec 64) (bs : Int) (prog : List Ins) (n npos : Nat) :
    Copied from_ tramp bs prog n npos [] n := by
  cases prog with
  | nil => exact ⟨rfl, rfl⟩
  | cons i rest => exact Or.inl ⟨rfl, rfl⟩

/-- where `fixBlock` stops, as a function of the instruction lengths and RET flags only (the `leastSize` test that ends
    the loop body of `fixBlock`) -/
def cutPos (least : Int) : List Ins → Nat → Nat
  | [], pos => pos
  | i :: rest, pos =>
    if 0 < least ∧ least ≤ ((pos + i.len : Nat) : Int) ∧ cutFlag rest = true then pos + i.len else cutPos least rest (pos + i.len)

theorem cutPos_ge (least : Int) (prog : List Ins) (pos : Nat) : pos ≤ cutPos least prog pos := by
  induction prog generalizing pos with
  | nil => simp [cutPos]
  | cons i rest ih =>
    simp only [cutPos]
    split
    · omega
    · have := ih (pos + i.len); omega

theorem cutPos_ge_cons (least : Int) (i : Ins) (rest : List Ins) (pos : Nat) :
    pos + i.len ≤ cutPos least (i :: rest) pos := by
  simp only [cutPos]
  split
  · omega
  · exact cutPos_ge least rest (pos + i.len)

/-- the second pass (`leastSize = n`) stops exactly where the first pass did -/
theorem cutPos_idem (least : Int) (prog : List Ins) (pos : Nat) (hl : ∀ i ∈ prog, 0 < i.len) :
    cutPos (cutPos least prog pos) prog pos = cutPos least prog pos := by
  induction prog generalizing pos with
  | nil => rfl
  | cons i rest ih =>
    have hi := hl i List.mem_cons_self
    have hrest : ∀ j ∈ rest, 0 < j.len := fun j hj => hl j (List.mem_cons_of_mem _ hj)
    by_cases hc : 0 < least ∧ least ≤ ((pos + i.len : Nat) : Int) ∧ cutFlag rest = true
    · rw [show cutPos least (i :: rest) pos = pos + i.len from if_pos hc]
      exact if_pos ⟨by omega, Int.le_refl _, hc.2.2⟩
    · rw [show cutPos least (i :: rest) pos = cutPos least rest (pos + i.len) from if_neg hc]
      refine (if_neg fun ⟨_, h2, h3⟩ => ?_).trans (ih _ hrest)
      -- the first pass went on, so it stopped beyond the end of the next instruction
      cases rest with
      | nil => exact nomatch h3
      | cons j rest' =>
        have := cutPos_ge_cons least j rest' (pos + i.len)
        have := hrest j List.mem_cons_self
        omega

/-- **whole instructions, nothing dropped** (fix_addr_amd64.go:50 `fixBlock`): a successful pass returns the bytes already
    collected followed by exactly one `fixIns` image per instruction up to the cut position. -/
theorem fixBlock_copied (from_ tramp : BitVec 64) (least bs : Int) (tl : Tail) (prog : List Ins) (hwf : ∀ i ∈ prog, WF i)
    (pos : Nat) (acc out : Reloc.Bytes) (n : Nat)
    (h : fixBlock Cfg.fixed from_ tramp least bs tl prog pos acc = .ok (out, n)) :
    n = cutPos least prog pos ∧ ∃ out', out = acc ++ out' ∧ Copied from_ tramp bs prog pos acc.length out' n := by
  induction prog generalizing pos acc with
  | nil =>
    unfold fixBlock at h
    cases tl <;> simp [Cfg.fixed] at h
    obtain ⟨rfl, rfl⟩ := h
    exact ⟨rfl, [], (List.append_nil _).symm, rfl, rfl⟩
  | cons i rest ih =>
    have hw := hwf i List.mem_cons_self
    have hlt : pos < pos + i.len := Nat.lt_add_of_pos_right hw.len_pos
    unfold fixBlock at h
    simp only [hw.opnz, Cfg.fixed, if_true, Bool.false_eq_true, if_false] at h
    split at h
    next => exact nomatch h
    next o ho =>
      split at h
      next hc =>
        injection h with h; injection h with h1 h2; subst h1 h2
        exact ⟨(if_pos hc).symm, o, rfl, Or.inr ⟨hlt, o, [], (List.append_nil _).symm, ho, Copied_done _ _ _ _ _ _⟩⟩
      next hc =>
        obtain ⟨hn, out', rfl, hcp⟩ := ih (fun j hj => hwf j (List.mem_cons_of_mem _ hj)) _ _ h
        have hge := cutPos_ge least rest (pos + i.len)
        rw [List.length_append] at hcp
        exact ⟨hn.trans (if_neg hc).symm, o ++ out', List.append_assoc _ _ _, Or.inr ⟨by omega, o, out', rfl, ho, hcp⟩⟩

/-- **n ≥ `leastSize` (13 at `fixOrigin`) unless the whole function was copied** -/
theorem cutPos_least (least : Int) (prog : List Ins) (pos : Nat) :
    least ≤ (cutPos least prog pos : Nat) ∨ cutPos least prog pos = pos + progLen prog := by
  induction prog generalizing pos with
  | nil => right; simp [cutPos, progLen]
  | cons i rest ih =>
    simp only [cutPos]
    split
    · rename_i hc; left; exact hc.2.1
    · rcases ih (pos + i.len) with h | h
      · left; exact h
      · right; rw [h]; simp [progLen]; omega

def located : List Ins → Nat → List (Nat × Ins)
  | [], _ => []
  | i :: rest, pos => (pos, i) :: located rest (pos + i.len)

private theorem located_bounds (prog : List Ins) (pos p : Nat) (i : Ins) (h : (p, i) ∈ located prog pos) :
    i ∈ prog ∧ pos ≤ p ∧ p + i.len ≤ pos + progLen prog := by
  induction prog generalizing pos with
  | nil => cases h
  | cons j rest ih =>
    rcases List.mem_cons.1 h with h | h
    · obtain ⟨rfl, rfl⟩ := Prod.mk.inj h
      exact ⟨List.mem_cons_self, Nat.le_refl _, by rw [progLen]; omega⟩
    · have ⟨h1, h2, h3⟩ := ih _ h
      exact ⟨List.mem_cons_of_mem _ h1, by omega, by rw [progLen]; omega⟩

/-- **no branch into the overwritten prefix** (`checkJumpBetween` of fix_addr_amd64.go): when the check passes, no
    instruction of the function (at a position ≤ funcSize) has a PC-relative target strictly inside `(0, n)`. -/
theorem checkJumpBetween_sound (n fs : Int) (tl : Tail) (prog : List Ins) (pos : Nat)
    (h : checkJumpBetween n fs tl prog pos = .ok ()) :
    ∀ p i, (p, i) ∈ located prog pos → (p : Int) ≤ fs → i.pcrelOff ≠ 0 →
      ∃ rel, decodeRel i = .ok rel ∧ ¬ (0 < rel + p + i.len ∧ rel + p + i.len < n) := by
  induction prog generalizing pos with
  | nil => intro p i hm; cases hm
  | cons j rest ih =>
    intro p i hm hp hpc
    unfold checkJumpBetween at h
    rcases List.mem_cons.1 hm with hm | hm
    · obtain ⟨rfl, rfl⟩ := Prod.mk.inj hm
      rw [if_neg (Int.not_lt.2 hp), if_neg hpc] at h
      split at h
      next => exact nomatch h
      next rel hrel =>
        refine ⟨rel, hrel, fun hin => ?_⟩
        rw [if_pos ⟨hin.2, hin.1⟩] at h
        exact nomatch h
    · -- the check went on past `j`: it did not stop at `pos` (`pos ≤ p ≤ fs`) and did not refuse `j`
      have := (located_bounds _ _ _ _ hm).2.1
      rw [if_neg (by omega)] at h
      refine ih _ ?_ p i hm hp hpc
      split at h
      next => exact h
      next =>
        split at h
        next => exact nomatch h
        next =>
          dsimp only at h
          split at h
          next => exact nomatch h
          next => exact h

/-- decomposition of a successful `fixRelativeAddr` (fix_addr_amd64.go:22): both passes succeeded, the check passed, the
    second pass stopped at the same `n`. -/
theorem fixRelativeAddr_ok (from_ tramp : BitVec 64) (fs least : Int) (tl : Tail) (prog : List Ins) (hwf : ∀ i ∈ prog, WF i)
    (out : Reloc.Bytes) (n : Nat) (h : fixRelativeAddr Cfg.fixed from_ tramp fs least tl prog = .ok (out, n)) :
    n = cutPos least prog 0 ∧ checkJumpBetween n fs tl prog 0 = .ok () ∧ Copied from_ tramp n prog 0 0 out n := by
  unfold fixRelativeAddr at h
  split at h
  next => exact nomatch h
  next o1 n1 h1 =>
    split at h
    next => exact nomatch h
    next hck =>
      split at h
      next => exact nomatch h
      next o2 n2 h2 =>
        injection h with h; injection h with e1 e2; subst e1 e2
        have hn1 := (fixBlock_copied _ _ _ _ _ _ hwf _ _ _ _ h1).1
        obtain ⟨hn2, out', rfl, hcp⟩ := fixBlock_copied _ _ _ _ _ _ hwf _ _ _ _ h2
        have : n2 = n1 := by rw [hn2, hn1]; exact cutPos_idem least prog 0 fun i hi => (hwf i hi).len_pos
        subst this
        exact ⟨hn1, hck, hcp⟩

/-- **failure writes nothing** (fix_origin_amd64.go:20) — definitional on this model (the model returns either the bytes of
    the single write or an error, it has no memory): the content is that no failure class of the relocation (error or panic)
    is swallowed by `fixOrigin`.  That the *function* is left unchanged is NOT a theorem here: `replaceFunc` unpatches an earlier
    mock before `fixOrigin` runs (finding F29, executed-layer case RemockRefused). -/
theorem reloc_fail_is_clean (from_ tramp : BitVec 64) (trampSize : Nat) (prog : List Ins) (e : String)
    (h : fixRelativeAddr Cfg.fixed from_ tramp (progLen prog) ((13 : Nat) : Int) .eof prog = .error e) :
    13 < trampSize → fixOrigin Cfg.fixed from_ tramp trampSize 13 prog = .error e := by
  intro ht
  unfold fixOrigin
  simp only [Nat.not_le.mpr ht, if_false, h]

/-- **the copy ends with a jump that lands on origin+n** and fits the placeholder: shape of a successful `fixOrigin`.
    When the WHOLE function was consumed (`n = progLen`) the bytes written are the relocated ones, `fixed`, without a jump
    back (`fixOriginFuncToTrampoline` assigns `fixedData` before it tests `fixedDataSize < originSize`); that `fixed` can
    differ from the raw bytes `progBytes` is shown by `C03F.F27_whole_copy_is_raw`. -/
theorem fixOrigin_ok (from_ tramp : BitVec 64) (trampSize : Nat) (prog : List Ins) (hwf : ∀ i ∈ prog, WF i) (data : Reloc.Bytes)
    (h : fixOrigin Cfg.fixed from_ tramp trampSize 13 prog = .ok data) :
    ∃ fixed n, fixRelativeAddr Cfg.fixed from_ tramp (progLen prog) ((13 : Nat) : Int) .eof prog = .ok (fixed, n) ∧
      data.length ≤ trampSize ∧ 13 < trampSize ∧ (13 ≤ n ∨ n = progLen prog) ∧
      (n < progLen prog →
        data = fixed ++ Gen.Amd64.jmpToOriginFunctionValue (tramp + BitVec.ofNat 64 fixed.length) (from_ + BitVec.ofNat 64 n)) ∧
      (¬ n < progLen prog → data = fixed) := by
  unfold fixOrigin at h
  simp only [Cfg.fixed, if_true] at h
  split at h
  next => exact nomatch h
  next hts =>
    split at h
    next => exact nomatch h
    next fixed n hfr =>
      have hn13 : 13 ≤ n ∨ n = progLen prog := by
        rw [(fixRelativeAddr_ok from_ tramp _ 13 .eof prog hwf fixed n hfr).1]
        rcases cutPos_least 13 prog 0 with hl | hl
        · left; exact_mod_cast hl
        · right; simpa using hl
      generalize hd : (if n < progLen prog then _ else fixed) = d at h
      split at h
      next => exact nomatch h
      next hsz =>
        injection h with h; subst h hd
        exact ⟨fixed, n, hfr, Nat.le_of_not_lt hsz, Nat.lt_of_not_le hts, hn13, fun hlt => if_pos hlt, fun hlt => if_neg hlt⟩

/-- **the appended jump transfers control to exactly origin+n and changes nothing else — in BOTH forms** (the far form
    is `JMP [RIP+0] ; .quad to`, register-free): `C15.return_exact` on the regenerated emitter, with no hypothesis on the
    distance between origin and placeholder. -/
theorem jump_back_lands (from_ tramp : BitVec 64) (k n : Nat) (m : X86.Mach) :
    X86.exec (Gen.Amd64.jmpToOriginFunctionValue (tramp + BitVec.ofNat 64 k) (from_ + BitVec.ofNat 64 n))
      { m with rip := tramp + BitVec.ofNat 64 k } = some { m with rip := from_ + BitVec.ofNat 64 n } :=
  C15.return_exact _ _ m

/-- the jump back costs 5 bytes (relative form) or 14 (far form): what `fixOrigin` compares with the placeholder size -/
theorem jump_back_length (from_ tramp : BitVec 64) (k n : Nat) :
    (Gen.Amd64.jmpToOriginFunctionValue (tramp + BitVec.ofNat 64 k) (from_ + BitVec.ofNat 64 n)).length =
      if Gen.Amd64.relative (tramp + BitVec.ofNat 64 k) (from_ + BitVec.ofNat 64 n) then 5 else 14 :=
  C15.amd64_origin_len _ _

/-- **a successful `fixOrigin` of a partially moved function, executed from the end of the relocated instructions, lands on
    origin+n** — whatever the distance between origin and placeholder — and occupies |fixed| + 5 or + 14 bytes ≤ placeholder size. -/
theorem fixOrigin_returns_to_origin (from_ tramp : BitVec 64) (trampSize : Nat) (prog : List Ins) (hwf : ∀ i ∈ prog, WF i)
    (data : Reloc.Bytes) (m : X86.Mach) (h : fixOrigin Cfg.fixed from_ tramp trampSize 13 prog = .ok data) :
    ∃ fixed n, fixRelativeAddr Cfg.fixed from_ tramp (progLen prog) ((13 : Nat) : Int) .eof prog = .ok (fixed, n) ∧
      (n < progLen prog →
        X86.exec (data.drop fixed.length) { m with rip := tramp + BitVec.ofNat 64 fixed.length } =
          some { m with rip := from_ + BitVec.ofNat 64 n } ∧
        data.length = fixed.length +
          (if Gen.Amd64.relative (tramp + BitVec.ofNat 64 fixed.length) (from_ + BitVec.ofNat 64 n) then 5 else 14) ∧
        data.length ≤ trampSize) := by
  obtain ⟨fixed, n, hfr, hsz, _, _, hj, _⟩ := fixOrigin_ok from_ tramp trampSize prog hwf data h
  refine ⟨fixed, n, hfr, fun hlt => ?_⟩
  have hd := hj hlt
  refine ⟨?_, ?_, hsz⟩
  · rw [hd, List.drop_left]; exact jump_back_lands from_ tramp fixed.length n m
  · rw [hd, List.length_append, jump_back_length]

/-- what one relocated instruction must satisfy (`F`,`T` = origin / placeholder address as integers, `n` = copied length).
    The second clause keeps the ORIGINAL offset of a backward target inside the copy; that is the right place only because
    `checkJumpBetween` leaves the entry (offset 0) as the one such target (`reloc_targets_entry_or_outside`). -/
def Image (F T : Int) (n : Nat) (i : Ins) (pos npos : Nat) (o : Reloc.Bytes) : Prop :=
  (i.pcrelOff = 0 → o = i.bytes) ∧
  (i.pcrelOff ≠ 0 → ∃ pre' f', o = pre' ++ f' ++ i.tail ∧ Shape i pre' f' ∧
    ((0 < sdisp i.field ∧ (n : Int) ≤ sdisp i.field + pos + i.len) ∨ (sdisp i.field < 0 ∧ sdisp i.field + pos + i.len < 0) →
        T + npos + (o.length : Int) + sdisp f' = F + (sdisp i.field + pos + i.len)) ∧
    (sdisp i.field < 0 → 0 ≤ sdisp i.field + pos + i.len → (npos : Int) + o.length + sdisp f' = sdisp i.field + pos + i.len) ∧
    (sdisp i.field = 0 ∨ (0 < sdisp i.field ∧ sdisp i.field + pos + i.len < n) → o = i.bytes))

/-- **the full-strength statement**: `out` is, instruction by instruction, a faithful image of `prog[pos .. n)` -/
def Faithful (F T : Int) (n : Nat) : List Ins → Nat → Nat → Reloc.Bytes → Prop
  | [], pos, _, out => pos = n ∧ out = []
  | i :: rest, pos, npos, out =>
    (pos = n ∧ out = []) ∨
    (pos < n ∧ ∃ o out', out = o ++ out' ∧ Image F T n i pos npos o ∧ Faithful F T n rest (pos + i.len) (npos + o.length) out')

/-- every PC-relative target stays encodable from the placeholder (true inside one image < 2 GiB).  `g` is any growth the
    copy can have reached: at most 4 bytes per instruction over `n ≤ 2^18` bytes (`copied_faithful`); 8 is the margin of `encode_spec`. -/
def Reach (F T : Int) (prog : List Ins) : Prop :=
  ∀ i ∈ prog, i.pcrelOff ≠ 0 → ∀ g : Int, 0 ≤ g → g ≤ 2^20 →
    -2^31 + 8 ≤ sdisp i.field + (F - T - g) ∧ sdisp i.field + (F - T - g) < 2^31 ∧ (-2^30 ≤ sdisp i.field - g ∨ 0 ≤ sdisp i.field)

theorem image_len (i : Ins) (hw : WF i) (pre' f' : Reloc.Bytes) (hp : i.pcrelOff ≠ 0) (hs : Shape i pre' f') :
    i.len ≤ (pre' ++ f' ++ i.tail).length ∧ (pre' ++ f' ++ i.tail).length ≤ i.len + 4 :=
  ⟨(hs.length hw hp).1, (hs.length hw hp).2.1⟩

theorem copied_faithful (from_ tramp : BitVec 64) (n : Nat) (hn : n ≤ 2^18)
    (hd1 : -2^31 + 2^21 ≤ (from_.toNat : Int) - tramp.toNat) (hd2 : (from_.toNat : Int) - tramp.toNat < 2^31 - 2^21)
    (prog : List Ins) (hwf : ∀ i ∈ prog, WF i) (hreach : Reach from_.toNat tramp.toNat prog)
    (pos npos : Nat) (out : Reloc.Bytes) (hg1 : pos ≤ npos) (hg2 : npos ≤ pos + 4 * pos)
    (h : Copied from_ tramp n prog pos npos out n) :
    Faithful from_.toNat tramp.toNat n prog pos npos out := by
  induction prog generalizing pos npos out with
  | nil => exact h
  | cons i rest ih =>
    have hw := hwf i List.mem_cons_self
    simp only [Copied] at h
    simp only [Faithful]
    rcases h with h | ⟨hlt, o, out', rfl, hfix, hcp⟩
    · exact Or.inl h
    · have himg : Image from_.toNat tramp.toNat n i pos npos o ∧ i.len ≤ o.length ∧ o.length ≤ i.len + 4 := by
        by_cases hp : i.pcrelOff = 0
        · unfold fixIns at hfix
          rw [if_pos hp] at hfix
          injection hfix with hfix; subst hfix
          exact ⟨⟨fun _ => rfl, fun h => absurd hp h⟩, by rw [hw.len_eq]; omega⟩
        · have hg : 0 ≤ (npos : Int) - pos ∧ (npos : Int) - pos ≤ 2^20 := by omega
          obtain ⟨r1, r2, r3⟩ := hreach i List.mem_cons_self hp _ hg.1 hg.2
          obtain ⟨pre', f', rfl, hsh, c1, c2, c3⟩ := fixIns_spec i hw hp pos n from_ tramp _ o (Int.le_trans (by decide) hg.1) hg.2
            hd1 hd2 r1 r2 r3 hfix
          have hl := hsh.length hw hp
          exact ⟨⟨fun h => absurd h hp, fun _ => ⟨pre', f', rfl, hsh, fun hc => by have := c1 hc; omega,
            fun ha ht => by have := c2 ha ht; omega, c3⟩⟩, hl.1, hl.2.1⟩
      have := hw.len_pos
      -- the growth stays within `4 * pos`: each image is at most 4 bytes longer than its instruction, of length ≥ 1
      exact Or.inr ⟨hlt, o, out', rfl, himg.1, ih (fun j hj => hwf j (List.mem_cons_of_mem _ hj))
        (fun j hj => hreach j (List.mem_cons_of_mem _ hj)) _ _ _ (by omega) (by omega) hcp⟩

/-- **reloc_faithful** — the relocation theorem: for every instruction list meeting the decoder contract, every
    origin/placeholder pair less than 2^31−2^21 apart with encodable targets, a successful `fixRelativeAddr` that returns `n ≤ 2^18`
    returns `n` ≥ 13 or the whole function, and bytes that are an instruction-by-instruction faithful image of the first `n` bytes. -/
theorem reloc_faithful (from_ tramp : BitVec 64) (fs : Int) (tl : Tail) (prog : List Ins) (hwf : ∀ i ∈ prog, WF i)
    (hd1 : -2^31 + 2^21 ≤ (from_.toNat : Int) - tramp.toNat) (hd2 : (from_.toNat : Int) - tramp.toNat < 2^31 - 2^21)
    (hreach : Reach from_.toNat tramp.toNat prog) (out : Reloc.Bytes) (n : Nat) (hn : n ≤ 2^18)
    (h : fixRelativeAddr Cfg.fixed from_ tramp fs 13 tl prog = .ok (out, n)) :
    Faithful from_.toNat tramp.toNat n prog 0 0 out ∧ ((13 : Int) ≤ n ∨ n = progLen prog) ∧
    checkJumpBetween n fs tl prog 0 = .ok () := by
  obtain ⟨hcut, hck, hcp⟩ := fixRelativeAddr_ok from_ tramp fs 13 tl prog hwf out n h
  refine ⟨copied_faithful from_ tramp n hn hd1 hd2 prog hwf hreach 0 0 out (by omega) (by omega) hcp, ?_, hck⟩
  rw [hcut]
  rcases cutPos_least 13 prog 0 with h1 | h1
  · left; exact h1
  · right; simpa using h1

theorem located_mem (prog : List Ins) (pos p : Nat) (i : Ins) (h : (p, i) ∈ located prog pos) : i ∈ prog :=
  (located_bounds prog pos p i h).1

/-- an instruction of the rest of the function (outside the copied prefix) branches to the function's own entry -/
def BranchesToEntryOutside (n : Nat) (prog : List Ins) : Prop :=
  ∃ p i, (p, i) ∈ located prog 0 ∧ n ≤ p ∧ i.pcrelOff ≠ 0 ∧ sdisp i.field + p + i.len = 0

/-- the full no-re-entry statement: control never comes back from the rest of the function into the overwritten bytes
    `[0, n)` — **not** implied by a successful relocation (F4: every Go function with a stack check ends in
    `CALL morestack; JMP entry`; see `C03F.F4_reentry_not_refused`) -/
def NoReentry (n : Nat) (fs : Int) (prog : List Ins) : Prop :=
  ∀ p i, (p, i) ∈ located prog 0 → n ≤ p → (p : Int) ≤ fs → i.pcrelOff ≠ 0 →
    ¬ (0 ≤ sdisp i.field + p + i.len ∧ sdisp i.field + p + i.len < n)

/-- **partial**: no re-entry, under the explicit hypothesis that nothing outside the prefix branches to the entry
    (for compiled Go: the function has no stack-growth epilogue, or the goroutine has headroom so it is never taken) -/
theorem no_reentry_partial (n : Nat) (fs : Int) (tl : Tail) (prog : List Ins) (hwf : ∀ i ∈ prog, WF i)
    (hck : checkJumpBetween n fs tl prog 0 = .ok ()) (hno : ¬ BranchesToEntryOutside n prog) : NoReentry n fs prog := by
  intro p i hm hn hp hpc ⟨h0, h1⟩
  obtain ⟨rel, hrel, hnot⟩ := checkJumpBetween_sound n fs tl prog 0 hck p i hm hp hpc
  rw [decodeRel_wf (hwf i (located_mem _ _ _ _ hm)) hpc] at hrel
  simp only [Except.ok.injEq] at hrel
  subst hrel
  apply hno
  exact ⟨p, i, hm, hn, hpc, by omega⟩

/-- **the jump back is the 5-byte relative form** (and lands on origin+n, `jump_back_lands`) whenever origin and placeholder are less than
    2^31−2^21 apart and the copy is shorter than 2^20 bytes — derived, not assumed: connects `fixOrigin_ok` with the C15 theorem. -/
theorem relative_of_near (from_ tramp : BitVec 64) (k n : Nat) (hk : k ≤ 2^20) (hn : n ≤ 2^18)
    (hd1 : -2^31 + 2^21 ≤ (from_.toNat : Int) - tramp.toNat) (hd2 : (from_.toNat : Int) - tramp.toNat < 2^31 - 2^21) :
    Gen.Amd64.relative (tramp + BitVec.ofNat 64 k) (from_ + BitVec.ofNat 64 n) = true := by
  have e : from_ + BitVec.ofNat 64 n - (tramp + BitVec.ofNat 64 k) - 5#64 =
      BitVec.ofInt 64 ((from_.toNat : Int) + n - (tramp.toNat + k) - 5) := by
    rw [← ofInt_sub, ← ofInt_sub, BitVec.ofInt_add, BitVec.ofInt_add, ofInt_toNat, ofInt_toNat]; rfl
  rw [C15.relative_spec, e, toInt_ofInt 63 (by omega) (by omega)]
  omega

theorem jump_back_lands_near (from_ tramp : BitVec 64) (k n : Nat) (m : X86.Mach) (hk : k ≤ 2^20) (hn : n ≤ 2^18)
    (hd1 : -2^31 + 2^21 ≤ (from_.toNat : Int) - tramp.toNat) (hd2 : (from_.toNat : Int) - tramp.toNat < 2^31 - 2^21) :
    X86.exec (Gen.Amd64.jmpToOriginFunctionValue (tramp + BitVec.ofNat 64 k) (from_ + BitVec.ofNat 64 n))
      { m with rip := tramp + BitVec.ofNat 64 k } = some { m with rip := from_ + BitVec.ofNat 64 n } :=
  jump_back_lands from_ tramp k n m

example : Gen.Amd64.relative (0x600000#64 + BitVec.ofNat 64 19) (0x500000#64 + BitVec.ofNat 64 15) = true := by decide

/-- **widening keeps the branch condition**: the near opcode `opExpand` lists for a short branch opcode is the same
    instruction in its rel32 form (Intel SDM: `7x cb` ↔ `0F 8x cd`, `EB cb` ↔ `E9 cd`). -/
theorem opExpand_preserves_condition (op : BitVec 8) (near : Reloc.Bytes)
    (h : Gen.Addr.opExpand (BitVec.setWidth 32 op) = some near) :
    (op = 0xEB#8 ∧ near = [0xE9#8]) ∨ (op.toNat / 16 = 7 ∧ near = [0x0F#8, op + 0x10#8]) := by
  have hop : op = BitVec.setWidth 8 (BitVec.setWidth 32 op) := by
    rw [BitVec.setWidth_setWidth_of_le op (by decide), BitVec.setWidth_eq]
  rcases opExpand_cases _ _ h with ⟨hk, rfl⟩ | ⟨hk, rfl⟩ | ⟨hk, rfl⟩ | ⟨hk, rfl⟩ <;> rw [hk] at hop <;> subst hop
  · right; decide
  · right; decide
  · right; decide
  · left; decide

example : Gen.Addr.opExpand (BitVec.setWidth 32 0x76#8) = some [0x0F#8, 0x86#8] := by decide

/-- **no copied or remaining instruction targets the inside of the copied prefix**: combined with `reloc_faithful`, the
    `Image` clauses for inner targets can only fire for a branch to the entry itself (t = 0, which `Image` maps to the start
    of the copy) or to the next instruction (displacement 0): an inner branch across a widened instruction cannot survive. -/
theorem reloc_targets_entry_or_outside (from_ tramp : BitVec 64) (fs : Int) (tl : Tail) (prog : List Ins) (hwf : ∀ i ∈ prog, WF i)
    (out : Reloc.Bytes) (n : Nat) (h : fixRelativeAddr Cfg.fixed from_ tramp fs 13 tl prog = .ok (out, n)) :
    ∀ p i, (p, i) ∈ located prog 0 → (p : Int) ≤ fs → i.pcrelOff ≠ 0 →
      sdisp i.field + p + i.len ≤ 0 ∨ (n : Int) ≤ sdisp i.field + p + i.len := by
  intro p i hm hp hpc
  obtain ⟨_, hck, _⟩ := fixRelativeAddr_ok from_ tramp fs 13 tl prog hwf out n h
  obtain ⟨rel, hrel, hnot⟩ := checkJumpBetween_sound n fs tl prog 0 hck p i hm hp hpc
  rw [decodeRel_wf (hwf i (located_mem _ _ _ _ hm)) hpc] at hrel
  simp only [Except.ok.injEq] at hrel
  subst hrel
  omega

theorem located_end (prog : List Ins) (pos p : Nat) (i : Ins) (h : (p, i) ∈ located prog pos) :
    p + i.len ≤ pos + progLen prog :=
  (located_bounds prog pos p i h).2.2

/-- **the whole function is checked when the size handed to the relocation covers it**: with `progLen prog ≤ fs` (what
    `fixOrigin` passes, *provided `GetFuncSize` returned the real extent of the function* — that provision is outside this model and
    is observed by the probe against the linker's symbol size) no instruction anywhere in the function targets the inside of the
    copied prefix.  A size that under-runs the function voids this: `C03F.truncated_size_misses_back_branch`. -/
theorem reloc_whole_function_checked (from_ tramp : BitVec 64) (fs : Int) (tl : Tail) (prog : List Ins) (hwf : ∀ i ∈ prog, WF i)
    (hfs : (progLen prog : Int) ≤ fs) (out : Reloc.Bytes) (n : Nat)
    (h : fixRelativeAddr Cfg.fixed from_ tramp fs 13 tl prog = .ok (out, n)) :
    ∀ p i, (p, i) ∈ located prog 0 → i.pcrelOff ≠ 0 →
      sdisp i.field + p + i.len ≤ 0 ∨ (n : Int) ≤ sdisp i.field + p + i.len := by
  intro p i hm hpc
  have := located_end prog 0 p i hm
  exact reloc_targets_entry_or_outside from_ tramp fs tl prog hwf out n h p i hm (by omega) hpc


/-! ## non-vacuity, one instruction at a time: `WF` and the hypotheses of `fixIns_spec` are met by realistic instructions and
    `fixIns` succeeds on them (no example here runs a whole list through `reloc_faithful`; `C03F.s2` is such a list) -/

/-- `JBE +0x0b` (76 0b) and `CMPB $0, x(RIP)` (80 3d disp32 00) satisfy the decoder contract -/
def exJbe : Ins := { len := 2, pcrelOff := 1, pcrel := 1, bytes := [0x76#8, 0x0b#8], isRet := false, isCall := false, backward := false, opZero := false }
def exCmpb : Ins := { len := 7, pcrelOff := 2, pcrel := 4, bytes := [0x80#8, 0x3d#8, 0x9c#8, 0x61#8, 0x5c#8, 0x00#8, 0x00#8],
                      isRet := false, isCall := false, backward := false, opZero := false }

example : WF exJbe := ⟨by decide, by decide, by decide, fun _ => by decide, fun _ => by decide, fun _ h => by simp [exJbe] at h, fun _ _ _ => by decide⟩
example : WF exCmpb := ⟨by decide, by decide, by decide, fun _ => by decide, fun _ => by decide, fun _ h => by simp [exCmpb] at h, fun _ h => by simp [exCmpb] at h⟩

/-- the hypotheses of `fixIns_spec` hold for `JBE` at offset 4 of a function at 0x500000 relocated 1 MiB up (outside-target
    branch: widened), and `fixIns` succeeds there with a 6-byte image -/
example : (-2:Int)^31 + 2^21 ≤ ((0x500000#64).toNat : Int) - (0x600000#64).toNat ∧
    ((0x500000#64).toNat : Int) - (0x600000#64).toNat < 2^31 - 2^21 ∧
    sdisp exJbe.field = 11 ∧
    (∃ o, fixIns Cfg.fixed exJbe 4 13 0x500000#64 0x600000#64 0 = .ok o ∧ o.length = 6) := by
  refine ⟨by decide, by decide, by decide, _, rfl, by decide⟩

/-- and for `CMPB $0, x(RIP)` the image keeps the trailing immediate -/
example : ∃ o, fixIns Cfg.fixed exCmpb 0 13 0x402f80#64 0x4022c8#64 0 = .ok o ∧ o.length = 7 ∧ o.drop 6 = exCmpb.tail := by
  refine ⟨_, rfl, by decide, by decide⟩

/-- the size hypothesis of `reloc_whole_function_checked` is met by a size that covers the function -/
example : (progLen [exJbe, exCmpb] : Int) ≤ 9 := by decide

end C03
