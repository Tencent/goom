import GoomVerif.Props.C01
/-!
# C01 — recorded defects, as facts about the model (never obligations)

`KNOWN_FINDINGS.jsonl` C01-K2-foreign-reset: the clause "keeps holding … until reset" read as "until the builder that
applied the mock is reset" is FALSE for goom, and the model reproduces it: `Guard.Unpatch` of a superseded guard
(`applied` is never cleared) writes the original bytes over the registered patch's jump.

C01-K3 (method value receiver) and the generic-dictionary defect (`fixed:` entry 79126f8 of that file) are about the
argument registers of the Go ABI, which the model does not represent; they are demonstrated on the implementation only
(checks/C01.py lanes `generic`, `c01.fm`).
-/
namespace C01F
open C01M C01

/-- the full-strength reading of "until reset": builder `b` mocks `f`, builder `b'` mocks `f` afterwards (its mock is the
    one applied), then `b` — not `b'` — is reset: calls must still run `b'`'s replacement -/
def HoldsUntilOwnReset (E : Env) : Prop :=
  ∀ (b b' f k k' : Nat) (v v' : RValue) (code : Addr), b' ≠ b →
    let s := arun E (ainit E) [.applyCb b f false v k code, .applyCb b' f false v' k' code]
    see E s f [] = .cb k' → see E (astep E s (.reset b)) f [] = .cb k'

/-- witness: builder 0 mocks function 1, builder 1 mocks it too, builder 0 resets — builder 1's mock is gone although its
    mocker is neither canceled nor reset -/
theorem foreign_reset_unpatches :
    let s := arun exEnv (ainit exEnv)
      [.applyCb 0 1 false ⟨0, 0xc000012340#64, 19⟩ 1 0x4a0000#64, .applyCb 1 1 false ⟨0, 0xc000012380#64, 19⟩ 2 0x4a0000#64]
    see exEnv s 1 [] = .cb 2 ∧ see exEnv (astep exEnv s (.reset 0)) 1 [] = .orig ∧
    ((astep exEnv s (.reset 0)).mockers 1 1).map (·.canceled) = some false := by decide +kernel

theorem not_holdsUntilOwnReset : ¬ HoldsUntilOwnReset exEnv := by
  intro h
  obtain ⟨before, after, _⟩ := foreign_reset_unpatches
  have := h 0 1 1 1 2 ⟨0, 0xc000012340#64, 19⟩ ⟨0, 0xc000012380#64, 19⟩ 0x4a0000#64 (by decide) before
  exact nomatch this.symm.trans after

end C01F
