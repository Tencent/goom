import GoomVerif.Props.C18
/-! Known finding `C18-closure-code-identity`: `arg.equal` compares funcs by code pointer (`reflect.Value.Pointer`,
    in `equal` of arg/equals.go), so two closures of one function literal with different captured state are accepted as equal.
    The full statement `C18.EqualsSpecFull` is false at this witness.  Not an obligation. -/
namespace C18.Findings
open C18M C18L

theorem closure_counterexample : ¬ C18.EqualsSpecFull := fun h =>
  -- at the witness `Equals` answers `true`, Go equality `false` (both by evaluation)
  have : Res.ok true = Res.ok false :=
    h { name := "F0", kind := .func, size := 8 } (.func "F0" 3 0) (.func "F0" 3 1) 8 ⟨rfl, rfl⟩ rfl trivial
  nomatch this

end C18.Findings
