import GoomVerif.Lemmas.C06L
import GoomVerif.Model.MethodH
import GoomVerif.Model.MethodG
import GoomVerif.Model.InnerFn
namespace C06HL
open Method (Str Entry Res Ty EKey CacheInv symIndex getOrCreate structKey bracket objName resolveSM exportMethodName
  exportStructName)
open MethodH C06L

theorem aget_cons {K V : Type} [DecidableEq K] (k k' : K) (v : V) (r : List (K × V)) :
    aget ((k, v) :: r) k' = if k = k' then some v else aget r k' := rfl

theorem cached_cases (s : HState) (key : CKey) (bn : Bool) (target : Str) :
    (∃ id mk, aget s.mcache key = some id ∧ aget s.mockers id = some mk ∧ cached s key bn target = (s, id)) ∨
    cached s key bn target = freshMocker s key bn target := by
  unfold cached
  split
  · next id hc =>
    split
    · next mk hg =>
      split
      · exact .inr rfl
      · exact .inl ⟨id, mk, hc, hg, rfl⟩
    · exact .inr rfl
  · exact .inr rfl

/-- isolation invariant for a fixed list `N` of names: every patch sits at the table index of a name in `N`, and every
    mocker object (cached or not, canceled or not) targets a name in `N`.  The mocker clause is what makes the patch clause
    inductive: `Apply` / `Return` on a kept handle patch at `mk.target` without any lookup. -/
def SInv (syms N : List Str) (s : HState) : Prop :=
  CacheInv (toOld s) ∧ (∀ p ∈ s.patched, ∃ n ∈ N, symIndex syms n = some p.1) ∧
    ∀ id mk, aget s.mockers id = some mk → mk.target ∈ N

theorem SInv.init (syms N : List Str) : SInv syms N HState.init :=
  ⟨cacheInv_init, fun _ h => (nomatch h), fun _ _ h => (nomatch h)⟩

theorem SInv.behavOf_none {syms N s} (h : SInv syms N s) (e : Entry) (he : e.callSym ∉ N) :
    behavOf syms s.patched e = none := by
  have hp := h.2.1
  generalize s.patched = p at hp
  induction p with
  | nil => rfl
  | cons q rest ih =>
    obtain ⟨n, hn, hi⟩ := hp q (by simp)
    have hne : syms[q.1]? ≠ some e.callSym := fun hc =>
      he (Option.some.inj ((symIndex_get hi).symm.trans hc) ▸ hn)
    rw [behavOf, if_neg hne]
    exact ih fun p hp' => hp p (by simp [hp'])

variable {syms N : List Str} {s : HState} {entries : List Entry}

theorem SInv.bind (h : SInv syms N s) {s' : HState} {id : Nat} {mk : Mocker} (ht : mk.target ∈ N)
    (hs : s'.structs = s.structs) (he : s'.exports = s.exports) (hm : s'.mockers = (id, mk) :: s.mockers)
    (hp : ∀ p ∈ s'.patched, p ∈ s.patched ∨ symIndex syms mk.target = some p.1) : SInv syms N s' := by
  refine ⟨?_, fun p hp' => (hp p hp').elim (h.2.1 p) fun hi => ⟨_, ht, hi⟩, fun id' mk' hg => ?_⟩
  · simpa only [toOld, CacheInv, hs, he] using h.1
  · rw [hm, aget_cons] at hg
    split at hg
    · cases hg; exact ht
    · exact h.2.2 id' mk' hg

theorem SInv.setMk (h : SInv syms N s) (id : Nat) {mk : Mocker} (ht : mk.target ∈ N) : SInv syms N (setMk s id mk) :=
  h.bind ht rfl rfl rfl fun _ hp => .inl hp

theorem SInv.cached {key : CKey} {bn : Bool} {target : Str} (h : SInv syms N s) (ht : target ∈ N) :
    SInv syms N (cached s key bn target).1 := by
  rcases cached_cases s key bn target with ⟨id, mk, _, _, hc⟩ | hc <;> rw [hc]
  · exact h
  · exact h.bind (mk := ⟨bn, target, none, false, none, false⟩) ht rfl rfl rfl fun _ hp => .inl hp

/-- method-cache soundness: a slot holds the id of an allocated mocker whose target is the name the slot's key denotes
    (`keyName`), so a cache hit patches what a fresh lookup would.  `id < s.nextId`: the mocker that `freshMocker` conses on
    under `nextId` then shadows no cached one. -/
def MI (entries : List Entry) (s : HState) : Prop :=
  ∀ key id, aget s.mcache key = some id →
    id < s.nextId ∧ ∃ mk, aget s.mockers id = some mk ∧ keyName entries key = some mk.target

/-! ### what `Apply`, `Return`, `Cancel` do to a state

They rebind a live mocker id to a mocker with the same target, drop patches, or patch the entry of that target.  Both
invariants survive that (`SInv.stable`, `MI.stable`), so each primitive is walked through once, for any such property. -/

def Stable (syms : List Str) (P : HState → Prop) : Prop :=
  ∀ {s : HState} {id : Nat} {mk : Mocker} (mk' : Mocker) (p' : List (Nat × Impl)), P s → aget s.mockers id = some mk →
    mk'.target = mk.target → (∀ q ∈ p', q ∈ s.patched ∨ symIndex syms mk.target = some q.1) →
    P { s with patched := p', mockers := (id, mk') :: s.mockers }

theorem SInv.stable : Stable syms (SInv syms N) := fun _ _ h hg ht hp =>
  h.bind (ht ▸ h.2.2 _ _ hg) rfl rfl rfl fun q hq => ht ▸ hp q hq

theorem MI.stable : Stable syms (MI entries) := by
  intro s id mk mk' p' h hg ht _ key id' hk
  obtain ⟨hlt, mk0, hg0, hk0⟩ := h key id' hk
  refine ⟨hlt, ?_⟩
  show ∃ m, aget ((id, mk') :: s.mockers) id' = some m ∧ _
  rw [aget_cons]
  split
  · next hid =>
    subst hid
    cases hg.symm.trans hg0
    exact ⟨mk', rfl, ht ▸ hk0⟩
  · exact ⟨mk0, hg0, hk0⟩

section
variable {P : HState → Prop} (hP : Stable syms P) (h : P s)
include hP h

theorem Stable.setMk {id : Nat} {mk mk' : Mocker} (hg : aget s.mockers id = some mk) (ht : mk'.target = mk.target) :
    P (setMk s id mk') :=
  hP mk' s.patched h hg ht fun _ hq => .inl hq

theorem Stable.applyMk {id : Nat} {impl : Impl} {fd : Bool} : P (applyMk syms s id impl fd).1 := by
  unfold MethodH.applyMk
  split
  · exact h
  · next mk hg =>
    split
    · exact h
    · next i hi => exact hP _ _ h hg rfl fun q hq => (List.mem_cons.1 hq).elim (fun e => .inr (e ▸ hi)) .inl

theorem Stable.cancelMk {id : Nat} : P (cancelMk s id) := by
  unfold MethodH.cancelMk
  split
  · exact h
  · next mk hg =>
    refine hP _ _ h hg rfl fun q hq => .inl ?_
    split at hq
    · exact (List.mem_filter.1 hq).1
    · exact hq

theorem Stable.clearWhen {id : Nat} : P (clearWhen s id) := by
  unfold MethodH.clearWhen
  split
  · next mk hg => exact hP.setMk h hg rfl
  · exact h

theorem Stable.applyCb {id k : Nat} : P (applyCb syms s id k).1 := by
  unfold MethodH.applyCb
  split
  · exact h
  · dsimp only
    split
    · exact hP.clearWhen (hP.applyMk h)
    · exact hP.applyMk h

end

theorem SInv.withMk (h : SInv syms N s) {hd : Nat} {f : Nat → Mocker → HState × Res}
    (hf : ∀ id mk, aget s.mockers id = some mk → SInv syms N (f id mk).1) : SInv syms N (withMk s hd f).1 := by
  unfold MethodH.withMk
  split
  · exact h
  · split
    · exact h
    · next hg => exact hf _ _ hg

theorem SInv.lookup (h : SInv syms N s) (l : Look)
    (hN : ∀ n, lookName entries l = some n → n ∈ N) : SInv syms N (lookup entries s l).1 := by
  cases l with
  | structMethod t m =>
    have hc := structs_get (c := s.structs) h.1.1 t
    cases hr : resolveSM entries t m with
    | error c =>
      simp only [MethodH.lookup, hc.2, hr]
      exact ⟨⟨hc.1, h.1.2⟩, h.2⟩
    | ok name =>
      simp only [MethodH.lookup, hc.2, hr]
      exact SInv.cached ⟨⟨hc.1, h.1.2⟩, h.2⟩ (hN name (by simp [lookName, hr]))
  | structExport t m =>
    have hc := structs_get (c := s.structs) h.1.1 t
    simp only [MethodH.lookup, hc.2]
    exact SInv.cached ⟨⟨hc.1, h.1.2⟩, h.2⟩ (hN _ rfl)
  | exportStruct pkg raw m =>
    have hc := exports_get (c := s.exports) h.1.2 pkg raw
    simp only [MethodH.lookup, hc.2]
    exact SInv.cached ⟨⟨h.1.1, hc.1⟩, h.2⟩ (hN (exportStructName pkg raw m) rfl)
  | exportFunc pkg fn => exact h.cached (hN _ rfl)

theorem step_inv {k : Nat} {st : Step} (hN : ∀ n, stepName entries st = some n → n ∈ N)
    (h : SInv syms N s) : SInv syms N (step syms entries s k st).1 := by
  cases st with
  | direct hd d =>
    simp only [stepName] at hN
    simp only [step]
    split
    · exact h
    · next name hd =>
      exact h.bind (mk := ⟨d.byName, name, none, false, none, false⟩) (hN name (by rw [hd])) rfl rfl rfl
        fun _ hp => .inl hp
  | redirect hd d =>
    simp only [stepName] at hN
    refine h.withMk fun id mk _ => ?_
    split
    · exact h
    · next name hd => exact h.setMk id (mk := { mk with target := name }) (hN name (by rw [hd]))
  | shot l =>
    have hl := h.lookup l hN
    simp only [step]
    split
    · exact hl
    · exact SInv.stable.applyCb hl
  | look hd l =>
    have hl := h.lookup l hN
    simp only [step]
    split <;> exact hl
  | apply hd => exact h.withMk fun id _ _ => SInv.stable.applyCb h
  | ret hd _ | rets hd _ _ | whenRet hd _ _ | retsWhen hd _ _ _ _ =>
    -- with the mocker in hand: refused, or its When edited in place, or a new When armed; the target never changes
    refine h.withMk fun id mk hg => ?_
    split
    · exact h
    · split
      · exact SInv.stable.setMk h hg rfl
      · refine SInv.stable.applyMk ?_
        exact SInv.stable.setMk h hg rfl
  | origin hd => exact h.withMk fun _ _ _ => h
  | cancel hd => exact h.withMk fun id _ _ => SInv.stable.cancelMk h
  | reset =>
    simp only [step]
    generalize cachedIds s = ids
    induction ids generalizing s with
    | nil => exact h
    | cons id rest ih => exact ih (SInv.stable.cancelMk h)

theorem run_inv {steps : List Step} {k : Nat}
    (hN : ∀ st ∈ steps, ∀ n, stepName entries st = some n → n ∈ N) (h : SInv syms N s) :
    SInv syms N (run syms entries s k steps).1 := by
  induction steps generalizing s k with
  | nil => exact h
  | cons st rest ih =>
    have ⟨h1, hr⟩ := List.forall_mem_cons.1 hN
    exact ih hr (step_inv h1 h)

theorem applyCb_toOld (syms : List Str) {id : Nat} {mk : Mocker} (hg : aget s.mockers id = some mk) (k : Nat) :
    (toOld (applyCb syms s id k).1, (applyCb syms s id k).2) = Method.applyAt syms (toOld s) k mk.target := by
  unfold MethodH.applyCb MethodH.applyMk Method.applyAt
  simp only [hg]
  cases symIndex syms mk.target with
  | none => rfl
  | some i => simp [MethodH.clearWhen, aget_cons, MethodH.setMk, toOld]

theorem cached_spec (h : MI entries s) {key : CKey} (bn : Bool) {target : Str} (hk : keyName entries key = some target)
    {c : HState × Nat} (hc : cached s key bn target = c) :
    toOld c.1 = toOld s ∧ MI entries c.1 ∧ ∃ mk, aget c.1.mockers c.2 = some mk ∧ mk.target = target := by
  subst hc
  rcases cached_cases s key bn target with ⟨id, mk, hc, hg, he⟩ | he <;> rw [he]
  · obtain ⟨_, mk0, hg0, hk0⟩ := h key id hc
    cases Option.some.inj (hg0.symm.trans hg)
    exact ⟨rfl, h, mk, hg, Option.some.inj (hk0.symm.trans hk)⟩
  · refine ⟨rfl, fun key' id' hk' => ?_, ⟨bn, target, none, false, none, false⟩, if_pos rfl, rfl⟩
    simp only [freshMocker, aget_cons] at hk' ⊢
    split at hk'
    · next hkk => cases hk'; exact ⟨Nat.lt_succ_self _, _, if_pos rfl, hkk ▸ hk⟩
    · obtain ⟨hlt, mk0, hg0, hk0⟩ := h key' id' hk'
      exact ⟨Nat.lt_succ_of_lt hlt, mk0, by rw [if_neg (Nat.ne_of_gt hlt)]; exact hg0, hk0⟩

def RInv (entries : List Entry) (s : HState) : Prop := CacheInv (toOld s) ∧ MI entries s

theorem RInv.init (entries : List Entry) : RInv entries HState.init :=
  ⟨cacheInv_init, fun _ _ h => (nomatch h)⟩

/-- the common tail of the one-shot paths: take the mocker from the method cache, `Apply(cb k)` -/
theorem tail_sim {key : CKey} {bn : Bool} {name : Str} {k : Nat} {c : HState × Nat} (h : RInv entries s)
    (hk : keyName entries key = some name) (hc : cached s key bn name = c) :
    (toOld (applyCb syms c.1 c.2 k).1, (applyCb syms c.1 c.2 k).2) = Method.applyAt syms (toOld s) k name ∧
    RInv entries (applyCb syms c.1 c.2 k).1 := by
  obtain ⟨ho, hM, mk, hg, ht⟩ := cached_spec h.2 bn hk hc
  have heq := applyCb_toOld syms hg k
  rw [ho, ht] at heq
  exact ⟨heq, by simpa only [← heq] using applyAt_inv (syms := syms) (k := k) (name := name) h.1, MI.stable.applyCb hM⟩

theorem shot_sim {syms : List Str} {k : Nat} {st : Method.Step} (hr : st.isReset = false) (h : RInv entries s) :
    (toOld (step syms entries s k (embed st)).1, (step syms entries s k (embed st)).2) =
      Method.step syms entries (toOld s) k st ∧
    RInv entries (step syms entries s k (embed st)).1 := by
  cases st with
  | reset => cases hr
  | structMethod t m =>
    have hc := structs_get (c := s.structs) h.1.1 t
    cases hres : resolveSM entries t m with
    | error c =>
      simp only [embed, step, lookup, Method.step, toOld, hc.2, hres]
      exact ⟨trivial, ⟨hc.1, h.1.2⟩, h.2⟩
    | ok name =>
      simp only [embed, step, lookup, Method.step, toOld, hc.2, hres]
      refine tail_sim ?_ (by simp [keyName, hres]) rfl
      exact ⟨⟨hc.1, h.1.2⟩, h.2⟩
  | structExport t m =>
    have hc := structs_get (c := s.structs) h.1.1 t
    simp only [embed, step, lookup, Method.step, toOld, hc.2]
    refine tail_sim ?_ (by simp [keyName]) rfl
    exact ⟨⟨hc.1, h.1.2⟩, h.2⟩
  | exportStruct pkg raw m =>
    have hc := exports_get (c := s.exports) h.1.2 pkg raw
    simp only [embed, step, lookup, Method.step, toOld, hc.2]
    refine tail_sim ?_ (by simp [keyName]) rfl
    exact ⟨⟨h.1.1, hc.1⟩, h.2⟩

theorem run_sim {syms : List Str} {steps : List Method.Step} {k : Nat}
    (hr : ∀ st ∈ steps, st.isReset = false) (h : RInv entries s) :
    toOld (run syms entries s k (steps.map embed)).1 = (Method.run syms entries (toOld s) k steps).1 ∧
    (run syms entries s k (steps.map embed)).2 = (Method.run syms entries (toOld s) k steps).2 := by
  induction steps generalizing s k with
  | nil => exact ⟨rfl, rfl⟩
  | cons st rest ih =>
    have ⟨hr1, hr2⟩ := List.forall_mem_cons.1 hr
    have ⟨h1, hI⟩ := shot_sim (syms := syms) (k := k) hr1 h
    have h2 := ih (k := k + 1) hr2 hI
    simp only [List.map_cons, run, Method.run, ← h1]
    exact ⟨h2.1, congrArg _ h2.2⟩

end C06HL

namespace C06GL
open Method (Str Entry Res Ty symIndex resolveSM behavOf)
open MethodH (aget)
open MethodG C06L

/-- what applying guard variable `h` will install: the symbol and the callback fixed when the guard was created -/
def payload (s : GState) (h : Nat) : Option (Str × Nat) := (aget s.guards h).map fun g => (g.name, g.k)

variable {syms : List Str} {entries : List Entry} {s : GState} {k h : Nat}

theorem gstep_payload {st : GStep} (hb : st.binds h = false) : payload (gstep syms entries s k st).1 h = payload s h := by
  cases st with
  | gnew h' t m =>
    have hb : h' ≠ h := by simpa [GStep.binds] using hb
    simp only [gstep]
    split
    · rfl
    · split
      · rfl
      · simp [payload, aget, hb]
  | gapply h' =>
    simp only [gstep]
    split
    · rfl
    · next g hg =>
      split
      · rfl
      · by_cases hh : h' = h
        · subst hh; simp [payload, aget, hg]
        · simp [payload, aget, hh]
  | gunpatch h' =>
    simp only [gstep]
    split
    · rfl
    · split
      · split <;> rfl
      · rfl

theorem grun_payload {steps : List GStep} (hb : ∀ st ∈ steps, st.binds h = false) : payload (grun syms entries s k steps).1 h = payload s h := by
  induction steps generalizing s k with
  | nil => rfl
  | cons st rest ih =>
    have ⟨h1, hr⟩ := List.forall_mem_cons.1 hb
    exact (ih hr).trans (gstep_payload h1)

theorem grun_append (a b : List GStep) :
    (grun syms entries s k (a ++ b)).1 = (grun syms entries (grun syms entries s k a).1 (k + a.length) b).1 := by
  induction a generalizing s k with
  | nil => rfl
  | cons st rest ih =>
    rw [List.length_cons, Nat.add_comm rest.length, ← Nat.add_assoc]
    exact ih

/-- creation files (symbol, callback) under `h`, the steps in between do not touch it, `Apply` installs it -/
theorem created_applied {t : Ty} {m : Str} {e : Entry} {mid : List GStep} (hr : resolveSM entries t m = .ok e.callSym)
    (hmem : e.callSym ∈ syms) (hmid : ∀ st ∈ mid, st.binds h = false) :
    behavOf syms (grun syms entries s k (.gnew h t m :: (mid ++ [.gapply h]))).1.patched e = some k := by
  obtain ⟨i, hi⟩ := symIndex_of_mem hmem
  have h1 : payload (gstep syms entries s k (.gnew h t m)).1 h = some (e.callSym, k) := by
    simp [payload, gstep, hr, hi, aget]
  have h2 := (grun_payload (syms := syms) (entries := entries) (k := k + 1) hmid).trans h1
  rw [grun, grun_append]
  generalize (grun syms entries (gstep syms entries s k (.gnew h t m)).1 (k + 1) mid).1 = s' at h2 ⊢
  obtain ⟨g, hg, hgp⟩ := Option.map_eq_some_iff.1 h2
  obtain ⟨hn, hc⟩ := Prod.mk.inj hgp
  simp [grun, gstep, hg, hn, hc, hi, behavOf, symIndex_get hi]

end C06GL

namespace C06IL
open InnerFn

theorem go_fills (pre : List Ins) (hp : pre.all isFill = true) (rest : List Ins) (cur : Nat) (first : Bool) :
    go (pre ++ rest) cur false first = go rest (cur + codeLen pre) false (first && pre.isEmpty) := by
  induction pre generalizing cur first with
  | nil => simp [codeLen]
  | cons i r ih =>
    cases i with
    | fill n =>
      simp only [List.all_cons, isFill, Bool.true_and] at hp
      simp [go, codeLen, ih hp, Nat.add_assoc]
    | call _ | int3 | prologue => simp [isFill] at hp

end C06IL
