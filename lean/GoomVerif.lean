-- GENERATED by tools/mkmain.py — do not edit.
import GoomVerif.Gen.A64Args
import GoomVerif.Gen.A64Table
import GoomVerif.Gen.Addr
import GoomVerif.Gen.C09Kinds
import GoomVerif.Gen.Cursor
import GoomVerif.Gen.IfaceConst
import GoomVerif.Gen.Jmp386
import GoomVerif.Gen.JmpAmd64
import GoomVerif.Gen.JmpArm64
import GoomVerif.Gen.JmpIfaceAmd64
import GoomVerif.Gen.JmpIfaceArm64
import GoomVerif.Gen.Page
import GoomVerif.Gen.StubHolder
import GoomVerif.Gen.X86Table
import GoomVerif.Model.A64Dec
import GoomVerif.Model.A64Full
import GoomVerif.Model.A64Mini
import GoomVerif.Model.ApiC12
import GoomVerif.Model.C01Dispatch
import GoomVerif.Model.Conc
import GoomVerif.Model.Convert
import GoomVerif.Model.ConvertNow
import GoomVerif.Model.Cursor
import GoomVerif.Model.Debug
import GoomVerif.Model.Equal
import GoomVerif.Model.Iface
import GoomVerif.Model.InnerFn
import GoomVerif.Model.LwwC12
import GoomVerif.Model.Mem
import GoomVerif.Model.MemHist
import GoomVerif.Model.Method
import GoomVerif.Model.MethodG
import GoomVerif.Model.MethodH
import GoomVerif.Model.Patch
import GoomVerif.Model.Reject
import GoomVerif.Model.Reloc
import GoomVerif.Model.ShareC18
import GoomVerif.Model.Stub
import GoomVerif.Model.Sym
import GoomVerif.Model.ValueC18
import GoomVerif.Model.Var
import GoomVerif.Model.When
import GoomVerif.Model.X86Dec
import GoomVerif.Model.X86Mini
import GoomVerif.Model.X86Scan
import GoomVerif.Lemmas.C01L
import GoomVerif.Lemmas.C02B
import GoomVerif.Lemmas.C02L
import GoomVerif.Lemmas.C03L
import GoomVerif.Lemmas.C04L
import GoomVerif.Lemmas.C05L
import GoomVerif.Lemmas.C06HL
import GoomVerif.Lemmas.C06L
import GoomVerif.Lemmas.C07L
import GoomVerif.Lemmas.C08L
import GoomVerif.Lemmas.C09L
import GoomVerif.Lemmas.C10L
import GoomVerif.Lemmas.C11L
import GoomVerif.Lemmas.C12L
import GoomVerif.Lemmas.C13L
import GoomVerif.Lemmas.C14HL
import GoomVerif.Lemmas.C14L
import GoomVerif.Lemmas.C15L
import GoomVerif.Lemmas.C16L
import GoomVerif.Lemmas.C16Vectors
import GoomVerif.Lemmas.C17L
import GoomVerif.Lemmas.C18L
import GoomVerif.Lemmas.C19L
import GoomVerif.Lemmas.C20L
import GoomVerif.Lemmas.X86Cert
import GoomVerif.Props.C01
import GoomVerif.Props.C02
import GoomVerif.Props.C03
import GoomVerif.Props.C04
import GoomVerif.Props.C05
import GoomVerif.Props.C06
import GoomVerif.Props.C07
import GoomVerif.Props.C08
import GoomVerif.Props.C09
import GoomVerif.Props.C10
import GoomVerif.Props.C11
import GoomVerif.Props.C12
import GoomVerif.Props.C13
import GoomVerif.Props.C14
import GoomVerif.Props.C15
import GoomVerif.Props.C16
import GoomVerif.Props.C17
import GoomVerif.Props.C18
import GoomVerif.Props.C19
import GoomVerif.Props.C20
import GoomVerif.Drv.C01
import GoomVerif.Drv.C02
import GoomVerif.Drv.C03
import GoomVerif.Drv.C04
import GoomVerif.Drv.C05
import GoomVerif.Drv.C06
import GoomVerif.Drv.C07
import GoomVerif.Drv.C08
import GoomVerif.Drv.C09
import GoomVerif.Drv.C10
import GoomVerif.Drv.C11
import GoomVerif.Drv.C12
import GoomVerif.Drv.C13
import GoomVerif.Drv.C14
import GoomVerif.Drv.C15
import GoomVerif.Drv.C16
import GoomVerif.Drv.C17
import GoomVerif.Drv.C18
import GoomVerif.Drv.C19
import GoomVerif.Drv.C20
import GoomVerif.Drv.Util
import GoomVerif.Findings.C01F
import GoomVerif.Findings.C02Orphan
import GoomVerif.Findings.C03F
import GoomVerif.Findings.C04F27
import GoomVerif.Findings.C04F6
import GoomVerif.Findings.C04K1
import GoomVerif.Findings.C04K2
import GoomVerif.Findings.C05MockerReturnAfterWhen
import GoomVerif.Findings.C06F
import GoomVerif.Findings.C07F
import GoomVerif.Findings.C08F8
import GoomVerif.Findings.C09AnySlice
import GoomVerif.Findings.C10F14
import GoomVerif.Findings.C10F27
import GoomVerif.Findings.C11Generic
import GoomVerif.Findings.C12F7
import GoomVerif.Findings.C12Stale
import GoomVerif.Findings.C13F
import GoomVerif.Findings.C14Fallback
import GoomVerif.Findings.C14PlaceholderOverrun
import GoomVerif.Findings.C16OpcodeZero
import GoomVerif.Findings.C17NopSentinel
import GoomVerif.Findings.C18Closure
import GoomVerif.Findings.C18InTuple
import GoomVerif.Findings.C18SignedZero
import GoomVerif.Findings.C19F13
import GoomVerif.Findings.C19F14
import GoomVerif.Findings.C19F27
